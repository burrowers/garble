/-
Reachability certificates over a finite directed graph given as an edge list.

A set of nodes is a `Nat` bitmask (`Nat.testBit`, which the kernel evaluates on GMP numbers).  If the mask is closed
under every edge, every path that starts inside the mask stays inside it; so a mask that contains the start nodes and
misses the targets proves that no path exists.  The mask itself is untrusted input (computed by the translator): only
the closure check, evaluated by the kernel over the regenerated edge list, is used.
-/
namespace GV.Graph

abbrev Edge := Nat × Nat

def okEdge (m : Nat) (e : Edge) : Bool := !m.testBit e.1 || m.testBit e.2

/-- the mask is closed under the edges -/
def closed (m : Nat) (es : List Edge) : Bool := es.all (okEdge m)

inductive Path (es : List Edge) : Nat → Nat → Prop
  | refl (a : Nat) : Path es a a
  | step {a b c : Nat} : (a, b) ∈ es → Path es b c → Path es a c

theorem closed_append (m : Nat) (es fs : List Edge) : closed m (es ++ fs) = (closed m es && closed m fs) := by
  simp [closed]

theorem closed_edge {m : Nat} {es : List Edge} (h : closed m es = true) {a b : Nat} (he : (a, b) ∈ es)
    (ha : m.testBit a = true) : m.testBit b = true := by
  simpa [okEdge, ha] using List.all_eq_true.mp h (a, b) he

/-- **soundness of the certificate** -/
theorem closed_path {m : Nat} {es : List Edge} (h : closed m es = true) {a b : Nat} (p : Path es a b)
    (ha : m.testBit a = true) : m.testBit b = true := by
  induction p with
  | refl a => exact ha
  | step he _ ih => exact ih (closed_edge h he ha)

theorem no_path_out {m : Nat} {es : List Edge} (h : closed m es = true) {a b : Nat}
    (ha : m.testBit a = true) (hb : m.testBit b = false) : ¬ Path es a b :=
  fun p => Bool.false_ne_true (hb ▸ closed_path h p ha)

theorem Path.mono {es fs : List Edge} (h : ∀ e ∈ es, e ∈ fs) {a b : Nat} (p : Path es a b) : Path fs a b := by
  induction p with
  | refl a => exact .refl a
  | step he _ ih => exact .step (h _ he) ih

/-! ### the closure check, written for the kernel

`closed` walks the edge list by compiled structural recursion and tests bits through `Nat.testBit`'s instances.  The kernel is
quicker on a recursor (hence `noncomputable`: `List.rec` has no compiled code) and on the primitive operations it evaluates
on literals directly; over the 14 000 edges of the runtime graph that halves the work. -/

def bitK (m n : Nat) : Bool := Nat.beq (Nat.land 1 (Nat.shiftRight m n)) 1

theorem bitK_eq (m n : Nat) : bitK m n = m.testBit n := by
  -- `Nat.testBit m n` unfolds to `1 &&& m >>> n != 0`, and the masked value is 0 or 1
  have h : 1 &&& m >>> n = 0 ∨ 1 &&& m >>> n = 1 := by
    have := Nat.and_le_left (n := 1) (m := m >>> n)
    omega
  show Nat.beq (1 &&& m >>> n) 1 = (1 &&& m >>> n != 0)
  rcases h with h | h <;> rw [h] <;> rfl

noncomputable def closedK (m : Nat) (es : List Edge) : Bool :=
  List.rec true (fun e _ r => (!bitK m e.1 || bitK m e.2) && r) es

theorem closedK_eq (m : Nat) (es : List Edge) : closedK m es = closed m es := by
  induction es with
  | nil => rfl
  | cons e es ih =>
    rw [closed, List.all_cons, ← closed, ← ih, okEdge, ← bitK_eq, ← bitK_eq]
    rfl

/-- a list of nodes forms a path when consecutive nodes are joined by edges -/
def isChain (es : List Edge) : List Nat → Bool
  | a :: b :: rest => es.contains (a, b) && isChain es (b :: rest)
  | _ => true

theorem chain_path (es : List Edge) : ∀ (l : List Nat) (a b : Nat), isChain es (a :: l) = true →
    (a :: l).getLast? = some b → Path es a b
  | [], a, b, _, hl => by
    simp at hl
    subst hl
    exact .refl a
  | c :: rest, a, b, h, hl => by
    simp only [isChain, Bool.and_eq_true] at h
    have he : (a, c) ∈ es := by simpa using h.1
    have hl' : (c :: rest).getLast? = some b := by simpa using hl
    exact .step he (chain_path es rest c b h.2 hl')

end GV.Graph
