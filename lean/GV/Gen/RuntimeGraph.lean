-- GENERATED by gvlib/c10.py from the oracle's `rtgraph 1` dump of the runtime AFTER the real stripRuntime. Do not edit.
set_option maxRecDepth 100000
namespace GV.Gen.RuntimeGraph

def nNodes : Nat := 3146

noncomputable def edges0 : List (Nat × Nat) := [(0, 99), (0, 288), (0, 378), (0, 383), (0, 676), (0, 1087), (0, 1364), (0, 1779), (0, 2449), (0, 3020), (0, 3145), (1, 2), (1, 224), (1, 629), (1, 3145), (2, 423), (2, 3145), (3, 237), (3, 3145), (4, 3145), (5, 7), (5, 9), (5, 290), (5, 3145), (6, 290), (6, 3145), (7, 3145), (8, 86), (8, 388), (8, 700), (8, 1421), (8, 1743), (8, 1747), (8, 1776), (8, 2287), (8, 2581), (8, 2589), (8, 3031), (8, 3145), (9, 10), (9, 325), (9, 594), (9, 628), (9, 678), (9, 749), (9, 752), (9, 754), (9, 759), (9, 1337), (9, 1339), (9, 1340), (9, 1342), (9, 1829), (9, 2619), (9, 3145), (10, 14), (10, 74), (10, 75), (10, 750), (10, 3145), (11, 13), (11, 14), (11, 75), (11, 759), (11, 3145), (12, 13), (12, 14), (12, 75), (12, 754), (12, 760), (12, 3145), (13, 14), (13, 74), (13, 3145), (14, 3145), (15, 14), (15, 74), (15, 75), (15, 3145), (16, 678), (16, 749), (16, 750), (16, 752), (16, 1338), (16, 1339), (16, 1342), (16, 1829), (16, 2619), (16, 3145), (17, 22), (17, 86), (17, 876), (17, 888), (17, 1372), (17, 1459), (17, 2287), (17, 2690), (17, 3145), (18, 1421), (18, 2644), (18, 2663), (18, 3031), (18, 3145), (19, 995), (19, 3145), (20, 77), (20, 80), (20, 994), (20, 3143), (20, 3145), (21, 1010), (21, 3145), (22, 356), (22, 1030), (22, 1640), (22, 3145), (23, 3145), (24, 541), (24, 949), (24, 2641), (24, 3145), (25, 26), (25, 1653), (25, 3145), (26, 424), (26, 3145), (27, 3145), (28, 3145), (29, 3145), (30, 31), (30, 629), (30, 1795), (30, 3145), (31, 423), (31, 3145), (32, 3145), (33, 3145), (34, 925), (34, 3145), (35, 3145), (36, 3145), (37, 38), (37, 49), (37, 86), (37, 2030), (37, 2144), (37, 2287), (37, 2463), (37, 3145), (38, 2027), (38, 3143), (38, 3145), (39, 86), (39, 2027), (39, 2144), (39, 2287), (39, 3145), (40, 41), (40, 2642), (40, 2661), (40, 2789), (40, 3145), (41, 2218), (41, 3145), (42, 43), (42, 44), (42, 998), (42, 2789), (42, 3145), (43, 2212), (43, 3145), (44, 2109), (44, 2799), (44, 2951), (44, 3145), (45, 2801), (45, 3145), (46, 435), (46, 1421), (46, 1799), (46, 1832), (46, 2131), (46, 2137), (46, 2477), (46, 3031), (46, 3145), (47, 328), (47, 1869), (47, 3145), (48, 479), (48, 1421), (48, 2644), (48, 2663), (48, 3031), (48, 3145), (49, 50), (49, 51), (49, 135), (49, 167), (49, 444), (49, 592), (49, 676), (49, 1059), (49, 1087), (49, 1364), (49, 2327), (49, 2579), (49, 2580), (49, 2789), (49, 2799), (49, 2856), (49, 3145), (50, 23), (50, 389), (50, 2290), (50, 3145), (51, 105), (51, 2451), (51, 2799), (51, 3145), (52, 3145), (53, 54), (53, 949), (53, 2642), (53, 2661), (53, 2789), (53, 3145), (54, 949), (54, 1026), (54, 3001), (54, 3007), (54, 3145), (55, 3145), (56, 1421), (56, 1888), (56, 1907), (56, 2438), (56, 2443), (56, 2642), (56, 2661), (56, 2858), (56, 2868), (56, 2886), (56, 2888), (56, 2894), (56, 2896), (56, 2917), (56, 2922), (56, 2930), (56, 2949)]
noncomputable def edges1 : List (Nat × Nat) := [(56, 2956), (56, 2957), (56, 2963), (56, 2964), (56, 2971), (56, 2981), (56, 3031), (56, 3145), (57, 2860), (57, 3145), (58, 59), (58, 2798), (58, 3145), (59, 3145), (60, 2326), (60, 2327), (60, 2856), (60, 3145), (61, 3145), (62, 552), (62, 949), (62, 3145), (63, 3145), (64, 3145), (65, 3145), (66, 66), (66, 3145), (67, 67), (67, 3145), (68, 68), (68, 3145), (69, 69), (69, 3145), (70, 70), (70, 3145), (71, 71), (71, 3145), (72, 72), (72, 3145), (73, 1037), (73, 3145), (74, 3145), (75, 3145), (76, 96), (76, 750), (76, 756), (76, 2220), (76, 2799), (76, 3145), (77, 78), (77, 96), (77, 483), (77, 949), (77, 1640), (77, 2061), (77, 2225), (77, 2799), (77, 3145), (78, 79), (78, 949), (78, 2789), (78, 3145), (79, 76), (79, 3054), (79, 3055), (79, 3058), (79, 3145), (80, 78), (80, 96), (80, 949), (80, 1869), (80, 3145), (81, 3143), (81, 3144), (81, 3145), (82, 704), (82, 705), (82, 3145), (83, 3143), (83, 3144), (83, 3145), (84, 86), (84, 3145), (85, 86), (85, 1421), (85, 1627), (85, 2144), (85, 2287), (85, 2799), (85, 3031), (85, 3145), (86, 949), (86, 3145), (87, 88), (87, 2858), (87, 2926), (87, 2937), (87, 2957), (87, 3145), (88, 1637), (88, 1788), (88, 3120), (88, 3145), (89, 3145), (90, 3145), (91, 382), (91, 2799), (91, 3145), (92, 3145), (93, 3145), (94, 170), (94, 3145), (95, 3145), (96, 3145), (97, 3145), (98, 949), (98, 3145), (99, 23), (99, 86), (99, 122), (99, 699), (99, 873), (99, 1421), (99, 2144), (99, 2287), (99, 3031), (99, 3145), (100, 2799), (100, 3145), (101, 1432), (101, 1789), (101, 3036), (101, 3145), (102, 3145), (103, 122), (103, 699), (103, 1421), (103, 3031), (103, 3145), (104, 3145), (105, 86), (105, 122), (105, 676), (105, 699), (105, 700), (105, 1421), (105, 2144), (105, 2287), (105, 2372), (105, 2376), (105, 2579), (105, 3031), (105, 3145), (106, 3143), (106, 3144), (106, 3145), (107, 1891), (107, 1892), (107, 3145), (108, 1477), (108, 1888), (108, 1891), (108, 3145), (109, 1889), (109, 1892), (109, 3145), (110, 1891), (110, 1892), (110, 2799), (110, 3145), (111, 134), (111, 1888), (111, 3145), (112, 135), (112, 1888), (112, 3145), (113, 109), (113, 117), (113, 1888), (113, 1890), (113, 2014), (113, 2799), (113, 3145), (114, 2014), (114, 3145), (115, 107), (115, 117), (115, 3145), (116, 107), (116, 117), (116, 1888), (116, 3145), (117, 107), (117, 1888), (117, 1892), (117, 3145), (118, 2014), (118, 3145), (119, 107), (119, 108), (119, 109), (119, 117), (119, 3145), (120, 109), (120, 1893), (120, 3145), (121, 3145), (122, 23), (122, 86), (122, 1421), (122, 1743), (122, 1747), (122, 1776), (122, 2287), (122, 2582), (122, 2589), (122, 2799), (122, 3031), (122, 3145), (123, 305), (123, 3145), (124, 2456), (124, 2468), (124, 2501), (124, 3143), (124, 3145), (125, 554), (125, 1804), (125, 1868), (125, 2479), (125, 2494), (125, 3145), (126, 130), (126, 1677), (126, 2799), (126, 3145), (127, 130), (127, 3145), (128, 104), (128, 130), (128, 131), (128, 760), (128, 2621), (128, 2659), (128, 2799), (128, 3145), (129, 130), (129, 3145), (130, 3076), (130, 3145)]
noncomputable def edges2 : List (Nat × Nat) := [(131, 96), (131, 104), (131, 221), (131, 752), (131, 760), (131, 949), (131, 2799), (131, 3145), (132, 130), (132, 3145), (133, 231), (133, 1265), (133, 3145), (134, 3145), (135, 3145), (136, 171), (136, 3145), (137, 171), (137, 770), (137, 2217), (137, 3145), (138, 3145), (139, 196), (139, 1421), (139, 2217), (139, 2799), (139, 3031), (139, 3145), (140, 86), (140, 87), (140, 141), (140, 949), (140, 1421), (140, 1469), (140, 1496), (140, 1649), (140, 2144), (140, 2287), (140, 2288), (140, 2360), (140, 2362), (140, 2789), (140, 2888), (140, 2963), (140, 2983), (140, 3031), (140, 3145), (141, 2632), (141, 3074), (141, 3145), (142, 143), (142, 1862), (142, 2789), (142, 3145), (143, 699), (143, 1421), (143, 3031), (143, 3145), (144, 1384), (144, 3145), (145, 3145), (146, 3145), (147, 3145), (148, 3145), (149, 3145), (150, 3062), (150, 3145), (151, 592), (151, 2799), (151, 3063), (151, 3145), (152, 3065), (152, 3145), (153, 592), (153, 1495), (153, 1849), (153, 2199), (153, 2588), (153, 2673), (153, 3023), (153, 3145), (154, 1836), (154, 3145), (155, 2767), (155, 3145), (156, 96), (156, 3145), (157, 2799), (157, 3145), (158, 2799), (158, 3145), (159, 2799), (159, 3145), (160, 2799), (160, 3145), (161, 2799), (161, 3145), (162, 3143), (162, 3144), (162, 3145), (163, 3143), (163, 3144), (163, 3145), (164, 3143), (164, 3144), (164, 3145), (165, 3143), (165, 3144), (165, 3145), (166, 950), (166, 3145), (167, 950), (167, 3145), (168, 3145), (169, 3145), (170, 3145), (171, 3145), (172, 3143), (172, 3144), (172, 3145), (173, 174), (173, 949), (173, 1640), (173, 3140), (173, 3145), (174, 1000), (174, 2078), (174, 3142), (174, 3145), (175, 3145), (176, 96), (176, 3145), (177, 3145), (178, 3145), (179, 3145), (180, 1055), (180, 1057), (180, 2799), (180, 3145), (181, 3145), (182, 3145), (183, 3145), (184, 3145), (185, 1888), (185, 3145), (186, 3145), (187, 3145), (188, 3145), (189, 3145), (190, 3039), (190, 3145), (191, 2381), (191, 3145), (192, 3145), (193, 3145), (194, 197), (194, 312), (194, 3145), (195, 196), (195, 3145), (196, 197), (196, 312), (196, 1869), (196, 3145), (197, 949), (197, 2144), (197, 3113), (197, 3145), (198, 3145), (199, 3143), (199, 3144), (199, 3145), (200, 840), (200, 949), (200, 1467), (200, 1743), (200, 2109), (200, 2799), (200, 3145), (201, 3143), (201, 3144), (201, 3145), (202, 3143), (202, 3144), (202, 3145), (203, 2799), (203, 3145), (204, 2799), (204, 3145), (205, 2799), (205, 3145), (206, 2799), (206, 3145), (207, 2799), (207, 3145), (208, 209), (208, 949), (208, 2692), (208, 3131), (208, 3145), (209, 2799), (209, 3002), (209, 3145), (210, 3131), (210, 3145), (211, 3145), (212, 554), (212, 619), (212, 1804), (212, 2185), (212, 2568), (212, 3131), (212, 3145), (213, 3131), (213, 3145), (214, 2799), (214, 3145), (215, 3145), (216, 2396), (216, 2401), (216, 2403), (216, 2404), (216, 3145), (217, 735), (217, 736), (217, 949), (217, 999), (217, 1028), (217, 1372), (217, 1421), (217, 1423), (217, 2690), (217, 3031), (217, 3145), (218, 218), (218, 3145), (219, 3145), (220, 104), (220, 3145), (221, 104), (221, 3145), (222, 998), (222, 3145), (223, 134), (223, 135), (223, 3145), (224, 239), (224, 241), (224, 1421), (224, 3031)]
noncomputable def edges3 : List (Nat × Nat) := [(224, 3143), (224, 3145), (225, 203), (225, 649), (225, 949), (225, 2814), (225, 2815), (225, 2822), (225, 2825), (225, 2827), (225, 3145), (226, 22), (226, 1421), (226, 1799), (226, 2217), (226, 3031), (226, 3145), (227, 3145), (228, 229), (228, 2367), (228, 3145), (229, 347), (229, 3145), (230, 3145), (231, 649), (231, 1421), (231, 3031), (231, 3145), (232, 649), (232, 1421), (232, 3031), (232, 3145), (233, 3145), (234, 3145), (235, 144), (235, 3145), (236, 3145), (237, 3143), (237, 3144), (237, 3145), (238, 3145), (239, 96), (239, 2799), (239, 3145), (240, 96), (240, 2799), (240, 3145), (241, 96), (241, 2799), (241, 3145), (242, 219), (242, 220), (242, 242), (242, 2799), (242, 3145), (243, 244), (243, 1501), (243, 3143), (243, 3145), (244, 3145), (245, 246), (245, 1501), (245, 3143), (245, 3145), (246, 3145), (247, 104), (247, 949), (247, 2144), (247, 3112), (247, 3113), (247, 3145), (248, 89), (248, 247), (248, 551), (248, 949), (248, 1467), (248, 1743), (248, 1777), (248, 1778), (248, 2144), (248, 2588), (248, 2799), (248, 3020), (248, 3112), (248, 3113), (248, 3145), (249, 551), (249, 949), (249, 1777), (249, 1778), (249, 2144), (249, 2588), (249, 2799), (249, 3020), (249, 3112), (249, 3145), (250, 1501), (250, 1988), (250, 2320), (250, 3145), (251, 2673), (251, 3145), (252, 1666), (252, 3145), (253, 3145), (254, 638), (254, 3145), (255, 3145), (256, 632), (256, 3145), (257, 3143), (257, 3144), (257, 3145), (258, 3143), (258, 3144), (258, 3145), (259, 3143), (259, 3144), (259, 3145), (260, 3143), (260, 3144), (260, 3145), (261, 3143), (261, 3144), (261, 3145), (262, 3143), (262, 3144), (262, 3145), (263, 3143), (263, 3144), (263, 3145), (264, 3143), (264, 3144), (264, 3145), (265, 3143), (265, 3144), (265, 3145), (266, 3143), (266, 3144), (266, 3145), (267, 3143), (267, 3144), (267, 3145), (268, 3143), (268, 3144), (268, 3145), (269, 3143), (269, 3144), (269, 3145), (270, 3143), (270, 3144), (270, 3145), (271, 3143), (271, 3144), (271, 3145), (272, 3143), (272, 3144), (272, 3145), (273, 3143), (273, 3144), (273, 3145), (274, 3143), (274, 3144), (274, 3145), (275, 3143), (275, 3144), (275, 3145), (276, 3143), (276, 3144), (276, 3145), (277, 3143), (277, 3144), (277, 3145), (278, 3143), (278, 3144), (278, 3145), (279, 3143), (279, 3144), (279, 3145), (280, 3143), (280, 3144), (280, 3145), (281, 3143), (281, 3144), (281, 3145), (282, 3143), (282, 3144), (282, 3145), (283, 3143), (283, 3144), (283, 3145), (284, 3143), (284, 3144), (284, 3145), (285, 3143), (285, 3144), (285, 3145), (286, 3143), (286, 3144), (286, 3145), (287, 161), (287, 162), (287, 328), (287, 949), (287, 1740), (287, 1869), (287, 3143), (287, 3145), (288, 3143), (288, 3145), (289, 162), (289, 3145), (290, 291), (290, 949), (290, 2789), (290, 3145), (291, 3006), (291, 3054), (291, 3145), (292, 2144), (292, 2217), (292, 3145), (293, 86), (293, 949), (293, 2217), (293, 2287), (293, 3145), (294, 3145), (295, 2716), (295, 2799), (295, 3145), (296, 84), (296, 2799), (296, 3145), (297, 300), (297, 3145), (298, 297), (298, 2799), (298, 3099), (298, 3145), (299, 572), (299, 2285), (299, 2799), (299, 3145), (300, 301), (300, 302), (300, 303), (300, 1430), (300, 1799), (300, 1907)]
noncomputable def edges4 : List (Nat × Nat) := [(300, 2124), (300, 2789), (300, 2803), (300, 3097), (300, 3145), (301, 2799), (301, 3145), (302, 2799), (302, 3145), (303, 2716), (303, 3145), (304, 84), (304, 2799), (304, 3145), (305, 706), (305, 3145), (306, 162), (306, 649), (306, 949), (306, 3145), (307, 96), (307, 307), (307, 317), (307, 319), (307, 321), (307, 1091), (307, 1368), (307, 2799), (307, 3145), (308, 96), (308, 104), (308, 321), (308, 1368), (308, 2799), (308, 3145), (309, 310), (309, 3145), (310, 316), (310, 321), (310, 3145), (311, 307), (311, 321), (311, 592), (311, 2799), (311, 3145), (312, 313), (312, 321), (312, 949), (312, 1084), (312, 1368), (312, 2789), (312, 3145), (313, 2799), (313, 3145), (314, 307), (314, 592), (314, 3145), (315, 96), (315, 316), (315, 321), (315, 3145), (316, 308), (316, 934), (316, 3145), (317, 89), (317, 319), (317, 320), (317, 321), (317, 676), (317, 1091), (317, 1368), (317, 1779), (317, 3020), (317, 3145), (318, 161), (318, 162), (318, 328), (318, 949), (318, 1740), (318, 1869), (318, 3143), (318, 3145), (319, 5), (319, 12), (319, 16), (319, 1384), (319, 3145), (320, 3145), (321, 89), (321, 320), (321, 1083), (321, 3145), (322, 2799), (322, 3145), (323, 949), (323, 3145), (324, 3143), (324, 3144), (324, 3145), (325, 3145), (326, 3145), (327, 2799), (327, 3145), (328, 23), (328, 162), (328, 601), (328, 621), (328, 949), (328, 1897), (328, 1898), (328, 2157), (328, 2179), (328, 2799), (328, 3145), (329, 3143), (329, 3144), (329, 3145), (330, 289), (330, 331), (330, 619), (330, 621), (330, 949), (330, 1424), (330, 1897), (330, 1898), (330, 2229), (330, 2799), (330, 3034), (330, 3145), (331, 196), (331, 332), (331, 949), (331, 1846), (331, 1869), (331, 2157), (331, 2179), (331, 2471), (331, 2789), (331, 3059), (331, 3143), (331, 3145), (332, 3145), (333, 2799), (333, 3145), (334, 2799), (334, 3145), (335, 96), (335, 3145), (336, 3145), (337, 2818), (337, 3145), (338, 3031), (338, 3145), (339, 85), (339, 225), (339, 228), (339, 335), (339, 338), (339, 340), (339, 441), (339, 595), (339, 649), (339, 949), (339, 998), (339, 1053), (339, 1421), (339, 1626), (339, 1628), (339, 2157), (339, 2170), (339, 2226), (339, 2286), (339, 2799), (339, 2818), (339, 3022), (339, 3023), (339, 3028), (339, 3031), (339, 3100), (339, 3102), (339, 3145), (340, 3031), (340, 3145), (341, 339), (341, 3145), (342, 339), (342, 3145), (343, 23), (343, 85), (343, 228), (343, 335), (343, 338), (343, 343), (343, 344), (343, 441), (343, 649), (343, 748), (343, 949), (343, 998), (343, 1053), (343, 1421), (343, 1626), (343, 1628), (343, 2170), (343, 2173), (343, 2286), (343, 2445), (343, 2799), (343, 3023), (343, 3031), (343, 3100), (343, 3102), (343, 3145), (344, 3031), (344, 3145), (345, 343), (345, 3145), (346, 949), (346, 3145), (347, 346), (347, 3145), (348, 346), (348, 3145), (349, 350), (349, 2319), (349, 2795), (349, 2799), (349, 3145), (350, 3143), (350, 3144), (350, 3145), (351, 170), (351, 352), (351, 678), (351, 725), (351, 750), (351, 752), (351, 758), (351, 760), (351, 932), (351, 2327), (351, 2799), (351, 2856), (351, 3145), (352, 353), (352, 931), (352, 1743), (352, 2331), (352, 3145), (353, 873)]
noncomputable def edges5 : List (Nat × Nat) := [(353, 874), (353, 3145), (354, 811), (354, 824), (354, 826), (354, 875), (354, 1048), (354, 1395), (354, 1421), (354, 2020), (354, 2021), (354, 3031), (354, 3145), (355, 1421), (355, 1914), (355, 2020), (355, 2339), (355, 3031), (355, 3145), (356, 3145), (357, 1914), (357, 2852), (357, 3145), (358, 168), (358, 359), (358, 649), (358, 720), (358, 1650), (358, 1684), (358, 1878), (358, 2019), (358, 2145), (358, 2799), (358, 2807), (358, 3031), (358, 3145), (359, 1373), (359, 2217), (359, 2799), (359, 3031), (359, 3145), (360, 658), (360, 1896), (360, 2799), (360, 3145), (361, 168), (361, 1650), (361, 2799), (361, 3145), (362, 365), (362, 2799), (362, 3145), (363, 364), (363, 2799), (363, 3145), (364, 89), (364, 676), (364, 949), (364, 3145), (365, 96), (365, 364), (365, 3145), (366, 3145), (367, 3145), (368, 3145), (369, 3145), (370, 3145), (371, 3145), (372, 373), (372, 3145), (373, 3145), (374, 3145), (375, 3145), (376, 86), (376, 949), (376, 2287), (376, 3145), (377, 22), (377, 1394), (377, 1421), (377, 1799), (377, 3031), (377, 3145), (378, 1421), (378, 1621), (378, 2332), (378, 3031), (378, 3145), (379, 386), (379, 774), (379, 949), (379, 999), (379, 1395), (379, 1421), (379, 3031), (379, 3145), (380, 86), (380, 949), (380, 2287), (380, 3145), (381, 86), (381, 372), (381, 375), (381, 1395), (381, 1396), (381, 2014), (381, 2144), (381, 2287), (381, 3145), (382, 86), (382, 371), (382, 373), (382, 374), (382, 375), (382, 1396), (382, 2287), (382, 2799), (382, 3145), (383, 1621), (383, 3145), (384, 1621), (384, 3145), (385, 3145), (386, 3145), (387, 773), (387, 774), (387, 1335), (387, 1421), (387, 1621), (387, 3031), (387, 3145), (388, 86), (388, 700), (388, 1421), (388, 1743), (388, 1747), (388, 1776), (388, 2287), (388, 2581), (388, 2589), (388, 3031), (388, 3145), (389, 388), (389, 3145), (390, 2482), (390, 3145), (391, 162), (391, 3145), (392, 196), (392, 1421), (392, 3031), (392, 3143), (392, 3145), (393, 96), (393, 3145), (394, 3143), (394, 3144), (394, 3145), (395, 395), (395, 441), (395, 649), (395, 772), (395, 773), (395, 774), (395, 949), (395, 1001), (395, 1053), (395, 1421), (395, 1627), (395, 1628), (395, 2159), (395, 2175), (395, 2182), (395, 3022), (395, 3031), (395, 3100), (395, 3145), (396, 3143), (396, 3144), (396, 3145), (397, 658), (397, 3145), (398, 82), (398, 425), (398, 1090), (398, 1363), (398, 1365), (398, 1367), (398, 3145), (399, 3145), (400, 404), (400, 3145), (401, 404), (401, 3145), (402, 404), (402, 3145), (403, 404), (403, 3145), (404, 2197), (404, 2799), (404, 3145), (405, 409), (405, 3145), (406, 409), (406, 3145), (407, 409), (407, 3145), (408, 409), (408, 3145), (409, 2200), (409, 2671), (409, 2799), (409, 3145), (410, 3143), (410, 3144), (410, 3145), (411, 949), (411, 1421), (411, 2144), (411, 2799), (411, 3145), (412, 86), (412, 1068), (412, 1421), (412, 2287), (412, 3031), (412, 3145), (413, 949), (413, 2144), (413, 2799), (413, 3031), (413, 3145), (414, 170), (414, 3145), (415, 170), (415, 1068), (415, 3145), (416, 158), (416, 416), (416, 1501), (416, 1739), (416, 2154), (416, 3023), (416, 3145), (417, 96), (417, 1501), (417, 3145), (418, 96), (418, 1501), (418, 3145)]
noncomputable def edges6 : List (Nat × Nat) := [(419, 1501), (419, 3145), (420, 158), (420, 420), (420, 1501), (420, 1677), (420, 1739), (420, 2154), (420, 3145), (421, 1501), (421, 3145), (422, 1501), (422, 3145), (423, 1), (423, 161), (423, 1740), (423, 2183), (423, 3145), (424, 25), (424, 161), (424, 1740), (424, 2183), (424, 3145), (425, 704), (425, 705), (425, 3145), (426, 126), (426, 127), (426, 128), (426, 129), (426, 132), (426, 669), (426, 682), (426, 812), (426, 949), (426, 1656), (426, 1677), (426, 2144), (426, 2413), (426, 2627), (426, 2632), (426, 2715), (426, 2799), (426, 3053), (426, 3055), (426, 3058), (426, 3072), (426, 3082), (426, 3145), (427, 430), (427, 949), (427, 1640), (427, 3145), (428, 427), (428, 949), (428, 3143), (428, 3145), (429, 430), (429, 949), (429, 1640), (429, 3145), (430, 300), (430, 927), (430, 996), (430, 1047), (430, 1048), (430, 1049), (430, 1789), (430, 1907), (430, 2455), (430, 2457), (430, 2717), (430, 2718), (430, 2799), (430, 2858), (430, 2913), (430, 2937), (430, 2957), (430, 3014), (430, 3145), (431, 3145), (432, 3145), (433, 3145), (434, 435), (434, 1799), (434, 1907), (434, 2137), (434, 3145), (435, 66), (435, 69), (435, 70), (435, 71), (435, 2137), (435, 3145), (436, 1907), (436, 3145), (437, 3145), (438, 3145), (439, 3145), (440, 3145), (441, 3143), (441, 3144), (441, 3145), (442, 489), (442, 3145), (443, 1896), (443, 3145), (444, 2334), (444, 3145), (445, 3145), (446, 447), (446, 949), (446, 2789), (446, 3145), (447, 678), (447, 750), (447, 752), (447, 760), (447, 2009), (447, 3145), (448, 3143), (448, 3144), (448, 3145), (449, 3143), (449, 3144), (449, 3145), (450, 451), (450, 452), (450, 949), (450, 1049), (450, 1424), (450, 1640), (450, 1789), (450, 2789), (450, 3034), (450, 3145), (451, 453), (451, 1049), (451, 1788), (451, 1789), (451, 1855), (451, 2799), (451, 3145), (452, 297), (452, 553), (452, 618), (452, 1048), (452, 2858), (452, 2908), (452, 2937), (452, 2957), (452, 3145), (453, 454), (453, 455), (453, 949), (453, 1049), (453, 1640), (453, 3145), (454, 300), (454, 553), (454, 618), (454, 962), (454, 1048), (454, 1421), (454, 2858), (454, 2910), (454, 2916), (454, 2937), (454, 2957), (454, 3031), (454, 3145), (455, 456), (455, 1869), (455, 3143), (455, 3145), (456, 448), (456, 3145), (457, 460), (457, 463), (457, 464), (457, 3145), (458, 460), (458, 461), (458, 3145), (459, 463), (459, 464), (459, 1050), (459, 1071), (459, 1076), (459, 2090), (459, 3145), (460, 3145), (461, 3145), (462, 460), (462, 461), (462, 3145), (463, 3145), (464, 463), (464, 3145), (465, 467), (465, 3145), (466, 467), (466, 3145), (467, 462), (467, 2799), (467, 3145), (468, 466), (468, 3145), (469, 468), (469, 3145), (470, 3145), (471, 467), (471, 470), (471, 472), (471, 3145), (472, 466), (472, 3145), (473, 37), (473, 39), (473, 3145), (474, 3145), (475, 3145), (476, 3145), (477, 783), (477, 949), (477, 3145), (478, 2690), (478, 2858), (478, 2901), (478, 2903), (478, 2937), (478, 2957), (478, 3145), (479, 123), (479, 929), (479, 3145), (480, 123), (480, 929), (480, 3145), (481, 985), (481, 3060), (481, 3145), (482, 985), (482, 3145), (483, 198), (483, 483), (483, 2173), (483, 3145), (484, 949), (484, 1845)]
noncomputable def edges7 : List (Nat × Nat) := [(484, 2799), (484, 3145), (485, 949), (485, 2799), (485, 3145), (486, 198), (486, 486), (486, 1845), (486, 2182), (486, 2799), (486, 3145), (487, 949), (487, 1845), (487, 2799), (487, 3145), (488, 77), (488, 80), (488, 3143), (488, 3145), (489, 619), (489, 1907), (489, 2184), (489, 2482), (489, 3029), (489, 3145), (490, 949), (490, 3145), (491, 949), (491, 3145), (492, 3145), (493, 3145), (494, 495), (494, 3145), (495, 496), (495, 3145), (496, 3145), (497, 441), (497, 467), (497, 468), (497, 469), (497, 471), (497, 930), (497, 949), (497, 1799), (497, 2144), (497, 2738), (497, 2799), (497, 3145), (498, 3145), (499, 3145), (500, 3145), (501, 3145), (502, 3145), (503, 3145), (504, 3145), (505, 3145), (506, 3145), (507, 3145), (508, 3145), (509, 3145), (510, 3145), (511, 3145), (512, 3145), (513, 3145), (514, 3145), (515, 3145), (516, 3145), (517, 465), (517, 3145), (518, 470), (518, 2146), (518, 2799), (518, 3145), (519, 465), (519, 468), (519, 3145), (520, 465), (520, 466), (520, 468), (520, 3145), (521, 524), (521, 3145), (522, 524), (522, 3145), (523, 524), (523, 3145), (524, 465), (524, 469), (524, 3145), (525, 524), (525, 3145), (526, 465), (526, 468), (526, 592), (526, 2799), (526, 3145), (527, 465), (527, 468), (527, 3145), (528, 465), (528, 466), (528, 468), (528, 3145), (529, 465), (529, 468), (529, 3145), (530, 533), (530, 3145), (531, 533), (531, 3145), (532, 533), (532, 3145), (533, 465), (533, 468), (533, 3145), (534, 533), (534, 3145), (535, 533), (535, 3145), (536, 537), (536, 3145), (537, 96), (537, 678), (537, 716), (537, 761), (537, 1384), (537, 1799), (537, 2799), (537, 3143), (537, 3145), (538, 539), (538, 1373), (538, 2217), (538, 2789), (538, 2799), (538, 3145), (539, 2368), (539, 3145), (540, 172), (540, 1361), (540, 2509), (540, 2538), (540, 2539), (540, 2540), (540, 3109), (540, 3145), (541, 949), (541, 1049), (541, 1789), (541, 3145), (542, 543), (542, 1026), (542, 1039), (542, 1421), (542, 2088), (542, 2558), (542, 3001), (542, 3007), (542, 3008), (542, 3031), (542, 3145), (543, 3145), (544, 104), (544, 562), (544, 934), (544, 1766), (544, 1779), (544, 2799), (544, 3020), (544, 3145), (545, 104), (545, 562), (545, 934), (545, 1777), (545, 2799), (545, 3020), (545, 3145), (546, 134), (546, 135), (546, 346), (546, 544), (546, 545), (546, 3145), (547, 676), (547, 1467), (547, 1743), (547, 1747), (547, 1757), (547, 1766), (547, 2799), (547, 3145), (548, 949), (548, 2799), (548, 3145), (549, 949), (549, 1059), (549, 2799), (549, 3145), (550, 949), (550, 2799), (550, 3145), (551, 562), (551, 1777), (551, 1778), (551, 2327), (551, 2799), (551, 2856), (551, 3020), (551, 3145), (552, 949), (552, 3145), (553, 949), (553, 2455), (553, 2457), (553, 3145), (554, 300), (554, 475), (554, 782), (554, 949), (554, 1421), (554, 1741), (554, 2147), (554, 2479), (554, 2502), (554, 2858), (554, 2888), (554, 2906), (554, 2937), (554, 2957), (554, 2963), (554, 2983), (554, 3031), (554, 3037), (554, 3145), (555, 3143), (555, 3144), (555, 3145), (556, 3143), (556, 3144), (556, 3145), (557, 97), (557, 3145), (558, 3145), (559, 1070), (559, 2524), (559, 3145), (560, 1069), (560, 3145), (561, 561), (561, 733)]
noncomputable def edges8 : List (Nat × Nat) := [(561, 1486), (561, 2873), (561, 2875), (561, 2988), (561, 3145), (562, 3145), (563, 563), (563, 2327), (563, 2856), (563, 2873), (563, 2874), (563, 2875), (563, 2988), (563, 3145), (564, 573), (564, 3145), (565, 221), (565, 573), (565, 3145), (566, 565), (566, 573), (566, 3145), (567, 573), (567, 3145), (568, 565), (568, 573), (568, 577), (568, 587), (568, 750), (568, 756), (568, 760), (568, 2009), (568, 2635), (568, 2657), (568, 3145), (569, 564), (569, 568), (569, 573), (569, 587), (569, 592), (569, 1373), (569, 2217), (569, 3054), (569, 3055), (569, 3058), (569, 3094), (569, 3145), (570, 170), (570, 571), (570, 720), (570, 3145), (571, 569), (571, 2217), (571, 2799), (571, 3145), (572, 949), (572, 2217), (572, 3145), (573, 589), (573, 3145), (574, 1379), (574, 1382), (574, 3145), (575, 170), (575, 573), (575, 576), (575, 1383), (575, 1467), (575, 1743), (575, 3145), (576, 573), (576, 586), (576, 587), (576, 678), (576, 750), (576, 752), (576, 758), (576, 760), (576, 3145), (577, 573), (577, 589), (577, 3145), (578, 170), (578, 573), (578, 3145), (579, 573), (579, 3145), (580, 566), (580, 573), (580, 577), (580, 3145), (581, 170), (581, 580), (581, 1467), (581, 1489), (581, 1743), (581, 1757), (581, 2799), (581, 3145), (582, 573), (582, 587), (582, 3145), (583, 146), (583, 564), (583, 573), (583, 587), (583, 3145), (584, 2503), (584, 2506), (584, 2507), (584, 2510), (584, 2511), (584, 2512), (584, 2513), (584, 2514), (584, 2515), (584, 2516), (584, 2517), (584, 2518), (584, 2519), (584, 2520), (584, 2521), (584, 2522), (584, 2523), (584, 2525), (584, 2526), (584, 2527), (584, 2528), (584, 3145), (585, 170), (585, 566), (585, 567), (585, 573), (585, 577), (585, 685), (585, 1381), (585, 1467), (585, 1743), (585, 3145), (586, 573), (586, 589), (586, 3145), (587, 577), (587, 3145), (588, 564), (588, 573), (588, 587), (588, 589), (588, 590), (588, 2324), (588, 2325), (588, 2327), (588, 2856), (588, 3145), (589, 3127), (589, 3145), (590, 589), (590, 3145), (591, 1866), (591, 1869), (591, 3145), (592, 3145), (593, 2327), (593, 2856), (593, 3143), (593, 3145), (594, 3145), (595, 2818), (595, 3145), (596, 3145), (597, 3145), (598, 843), (598, 2799), (598, 3145), (599, 600), (599, 3145), (600, 24), (600, 62), (600, 227), (600, 2500), (600, 2541), (600, 2562), (600, 3145), (601, 945), (601, 2229), (601, 3145), (602, 102), (602, 949), (602, 1421), (602, 1799), (602, 1878), (602, 2144), (602, 2928), (602, 2937), (602, 3031), (602, 3145), (603, 1421), (603, 1878), (603, 3031), (603, 3145), (604, 102), (604, 300), (604, 605), (604, 606), (604, 607), (604, 608), (604, 609), (604, 945), (604, 949), (604, 2144), (604, 2364), (604, 2789), (604, 2858), (604, 2937), (604, 3070), (604, 3145), (605, 2799), (605, 3145), (606, 1052), (606, 2288), (606, 2914), (606, 2937), (606, 3145), (607, 2799), (607, 3145), (608, 2799), (608, 3145), (609, 2957), (609, 3145), (610, 1433), (610, 3145), (611, 3145), (612, 3145), (613, 3145), (614, 3145), (615, 3145), (616, 3145), (617, 3145), (618, 300), (618, 949), (618, 996), (618, 1907), (618, 2144), (618, 2471), (618, 2858), (618, 2911), (618, 2937), (618, 2957), (618, 3014), (618, 3145)]
noncomputable def edges9 : List (Nat × Nat) := [(619, 3143), (619, 3144), (619, 3145), (620, 3143), (620, 3144), (620, 3145), (621, 22), (621, 300), (621, 622), (621, 623), (621, 624), (621, 625), (621, 626), (621, 949), (621, 1640), (621, 2144), (621, 2145), (621, 2407), (621, 2789), (621, 2799), (621, 2858), (621, 2937), (621, 3070), (621, 3145), (622, 1421), (622, 3145), (623, 2911), (623, 2915), (623, 2926), (623, 2927), (623, 2957), (623, 3145), (624, 88), (624, 627), (624, 2858), (624, 2911), (624, 2915), (624, 2926), (624, 2937), (624, 2957), (624, 3145), (625, 3015), (625, 3145), (626, 87), (626, 300), (626, 475), (626, 553), (626, 618), (626, 949), (626, 962), (626, 1421), (626, 1878), (626, 2019), (626, 2407), (626, 2412), (626, 2666), (626, 2667), (626, 2858), (626, 2890), (626, 2891), (626, 2915), (626, 2937), (626, 2957), (626, 3031), (626, 3145), (627, 475), (627, 949), (627, 1421), (627, 1878), (627, 2019), (627, 2447), (627, 2784), (627, 2785), (627, 3031), (627, 3145), (628, 287), (628, 1035), (628, 3145), (629, 7), (629, 9), (629, 55), (629, 1481), (629, 3145), (630, 104), (630, 3145), (631, 3145), (632, 1666), (632, 2187), (632, 3012), (632, 3145), (633, 732), (633, 763), (633, 3145), (634, 633), (634, 640), (634, 3145), (635, 633), (635, 640), (635, 3145), (636, 635), (636, 644), (636, 665), (636, 3145), (637, 3145), (638, 1666), (638, 2187), (638, 3012), (638, 3145), (639, 731), (639, 764), (639, 3145), (640, 764), (640, 3145), (641, 640), (641, 3145), (642, 640), (642, 3145), (643, 642), (643, 645), (643, 666), (643, 3145), (644, 633), (644, 639), (644, 645), (644, 3145), (645, 732), (645, 764), (645, 3145), (646, 3145), (647, 348), (647, 648), (647, 3145), (648, 704), (648, 3145), (649, 650), (649, 655), (649, 949), (649, 2109), (649, 2120), (649, 2789), (649, 3145), (650, 2093), (650, 2107), (650, 3145), (651, 442), (651, 652), (651, 653), (651, 949), (651, 2789), (651, 3145), (652, 542), (652, 2111), (652, 2648), (652, 3145), (653, 619), (653, 3145), (654, 619), (654, 1370), (654, 2504), (654, 2537), (654, 2539), (654, 3145), (655, 656), (655, 949), (655, 2789), (655, 3145), (656, 442), (656, 542), (656, 619), (656, 1370), (656, 2648), (656, 3145), (657, 764), (657, 3145), (658, 3145), (659, 633), (659, 639), (659, 660), (659, 3145), (660, 493), (660, 732), (660, 764), (660, 3145), (661, 633), (661, 657), (661, 3145), (662, 657), (662, 3145), (663, 633), (663, 657), (663, 3145), (664, 657), (664, 3145), (665, 633), (665, 657), (665, 3145), (666, 657), (666, 3145), (667, 668), (667, 2799), (667, 3143), (667, 3145), (668, 3145), (669, 3145), (670, 1421), (670, 3031), (670, 3145), (671, 385), (671, 670), (671, 3145), (672, 3031), (672, 3145), (673, 3145), (674, 170), (674, 300), (674, 675), (674, 1631), (674, 2486), (674, 3095), (674, 3098), (674, 3145), (675, 771), (675, 3145), (676, 200), (676, 1467), (676, 1743), (676, 1767), (676, 2588), (676, 3145), (677, 87), (677, 162), (677, 215), (677, 300), (677, 354), (677, 355), (677, 357), (677, 384), (677, 387), (677, 772), (677, 773), (677, 776), (677, 811), (677, 818), (677, 826), (677, 875), (677, 926), (677, 949), (677, 960), (677, 961), (677, 1048)]
noncomputable def edges10 : List (Nat × Nat) := [(677, 1335), (677, 1395), (677, 1421), (677, 1437), (677, 1438), (677, 1440), (677, 1799), (677, 1805), (677, 1806), (677, 1807), (677, 1808), (677, 1822), (677, 2019), (677, 2020), (677, 2021), (677, 2144), (677, 2221), (677, 2288), (677, 2337), (677, 2340), (677, 2343), (677, 2654), (677, 2667), (677, 2799), (677, 2838), (677, 2858), (677, 2888), (677, 2916), (677, 2937), (677, 2951), (677, 2957), (677, 2963), (677, 3031), (677, 3107), (677, 3145), (678, 96), (678, 679), (678, 1721), (678, 3145), (679, 3145), (680, 3145), (681, 3145), (682, 1625), (682, 1631), (682, 3145), (683, 995), (683, 2474), (683, 3145), (684, 95), (684, 170), (684, 1643), (684, 1647), (684, 1861), (684, 2405), (684, 2610), (684, 2690), (684, 2799), (684, 3145), (685, 573), (685, 3145), (686, 690), (686, 3145), (687, 691), (687, 3145), (688, 690), (688, 3145), (689, 691), (689, 3145), (690, 731), (690, 3145), (691, 732), (691, 3145), (692, 949), (692, 3145), (693, 949), (693, 3145), (694, 949), (694, 3145), (695, 649), (695, 3145), (696, 949), (696, 3145), (697, 949), (697, 3145), (698, 3145), (699, 1656), (699, 2014), (699, 2799), (699, 3143), (699, 3145), (700, 3145), (701, 2799), (701, 3145), (702, 3145), (703, 3145), (704, 3145), (705, 3145), (706, 1365), (706, 1367), (706, 1718), (706, 3145), (707, 3127), (707, 3145), (708, 170), (708, 709), (708, 3145), (709, 170), (709, 1639), (709, 2628), (709, 3145), (710, 646), (710, 3145), (711, 710), (711, 3145), (712, 710), (712, 3145), (713, 726), (713, 3145), (714, 713), (714, 3145), (715, 713), (715, 3145), (716, 1385), (716, 3145), (717, 633), (717, 639), (717, 718), (717, 3145), (718, 732), (718, 764), (718, 1790), (718, 3145), (719, 3145), (720, 1421), (720, 3031), (720, 3143), (720, 3145), (721, 175), (721, 176), (721, 3143), (721, 3145), (722, 723), (722, 2789), (722, 3145), (723, 298), (723, 300), (723, 724), (723, 949), (723, 3145), (724, 86), (724, 949), (724, 1052), (724, 1421), (724, 1873), (724, 1875), (724, 2079), (724, 2144), (724, 2287), (724, 2447), (724, 2784), (724, 2785), (724, 2799), (724, 3031), (724, 3143), (724, 3145), (725, 147), (725, 148), (725, 170), (725, 1743), (725, 3143), (725, 3145), (726, 3145), (727, 876), (727, 949), (727, 999), (727, 1421), (727, 1423), (727, 1799), (727, 2799), (727, 3145), (728, 3145), (729, 594), (729, 678), (729, 730), (729, 1337), (729, 1340), (729, 1342), (729, 1829), (729, 3143), (729, 3145), (730, 3145), (731, 3145), (732, 3145), (733, 594), (733, 678), (733, 734), (733, 752), (733, 1337), (733, 1340), (733, 1342), (733, 1829), (733, 3143), (733, 3145), (734, 3145), (735, 700), (735, 1414), (735, 1416), (735, 1420), (735, 1421), (735, 2603), (735, 3031), (735, 3145), (736, 737), (736, 1421), (736, 1464), (736, 2789), (736, 3031), (736, 3145), (737, 949), (737, 1465), (737, 1696), (737, 3145), (738, 381), (738, 700), (738, 1421), (738, 1455), (738, 1656), (738, 2150), (738, 2799), (738, 3031), (738, 3145), (739, 1421), (739, 1465), (739, 1696), (739, 1902), (739, 3031), (739, 3145), (740, 23), (740, 86), (740, 157), (740, 1421), (740, 1736), (740, 1743), (740, 1774), (740, 2164), (740, 2287), (740, 2799), (740, 3031), (740, 3075), (740, 3145)]
noncomputable def edges11 : List (Nat × Nat) := [(741, 86), (741, 393), (741, 492), (741, 940), (741, 949), (741, 1059), (741, 1467), (741, 1483), (741, 1632), (741, 1743), (741, 2287), (741, 2318), (741, 2588), (741, 2799), (741, 3145), (742, 743), (742, 2789), (742, 3145), (743, 700), (743, 1421), (743, 1639), (743, 2628), (743, 3031), (743, 3145), (744, 2079), (744, 3070), (744, 3145), (745, 645), (745, 719), (745, 3145), (746, 644), (746, 688), (746, 3145), (747, 645), (747, 689), (747, 3145), (748, 3145), (749, 3145), (750, 1720), (750, 3145), (751, 752), (751, 3145), (752, 3145), (753, 750), (753, 2655), (753, 3145), (754, 755), (754, 3145), (755, 3145), (756, 3145), (757, 752), (757, 1037), (757, 3145), (758, 759), (758, 3145), (759, 752), (759, 757), (759, 2012), (759, 3145), (760, 752), (760, 1719), (760, 3145), (761, 754), (761, 760), (761, 3145), (762, 750), (762, 760), (762, 2012), (762, 2799), (762, 3145), (763, 3145), (764, 3145), (765, 3143), (765, 3144), (765, 3145), (766, 765), (766, 2853), (766, 3145), (767, 765), (767, 768), (767, 2789), (767, 3145), (768, 3145), (769, 3145), (770, 3145), (771, 1366), (771, 1625), (771, 1627), (771, 2217), (771, 3145), (772, 3145), (773, 1048), (773, 3145), (774, 1049), (774, 3145), (775, 776), (775, 1048), (775, 3145), (776, 3145), (777, 1048), (777, 3145), (778, 3145), (779, 1049), (779, 3145), (780, 1048), (780, 1049), (780, 3145), (781, 1048), (781, 3145), (782, 3145), (783, 22), (783, 784), (783, 785), (783, 800), (783, 845), (783, 865), (783, 949), (783, 2789), (783, 2858), (783, 2898), (783, 2899), (783, 2937), (783, 2957), (783, 3145), (784, 3145), (785, 786), (785, 3145), (786, 298), (786, 300), (786, 787), (786, 806), (786, 839), (786, 841), (786, 949), (786, 1401), (786, 1402), (786, 1799), (786, 2144), (786, 3145), (787, 2799), (787, 3145), (788, 3145), (789, 86), (789, 790), (789, 2287), (789, 3145), (790, 86), (790, 787), (790, 791), (790, 792), (790, 822), (790, 841), (790, 845), (790, 949), (790, 998), (790, 1049), (790, 1401), (790, 1402), (790, 1788), (790, 1789), (790, 1799), (790, 2144), (790, 2287), (790, 2789), (790, 2799), (790, 3145), (791, 1396), (791, 1788), (791, 2287), (791, 3145), (792, 298), (792, 300), (792, 776), (792, 836), (792, 837), (792, 838), (792, 963), (792, 1421), (792, 2338), (792, 2799), (792, 3031), (792, 3145), (793, 794), (793, 3145), (794, 104), (794, 3145), (795, 3145), (796, 3145), (797, 3145), (798, 3145), (799, 796), (799, 805), (799, 2799), (799, 3145), (800, 3145), (801, 3145), (802, 804), (802, 805), (802, 807), (802, 2799), (802, 3145), (803, 804), (803, 807), (803, 2799), (803, 3145), (804, 3145), (805, 2799), (805, 3145), (806, 804), (806, 805), (806, 807), (806, 2799), (806, 3145), (807, 86), (807, 796), (807, 1400), (807, 2287), (807, 2799), (807, 3145), (808, 2319), (808, 3145), (809, 171), (809, 815), (809, 828), (809, 833), (809, 863), (809, 864), (809, 1372), (809, 2858), (809, 2922), (809, 2937), (809, 2957), (809, 3145), (810, 3145), (811, 2799), (811, 3145), (812, 3145), (813, 814), (813, 875), (813, 1395), (813, 1396), (813, 1799), (813, 2799), (813, 3143), (813, 3145), (814, 3145), (815, 171), (815, 3145), (816, 819), (816, 2109)]
noncomputable def edges12 : List (Nat × Nat) := [(816, 2120), (816, 3145), (817, 348), (817, 824), (817, 949), (817, 2080), (817, 2144), (817, 3108), (817, 3145), (818, 300), (818, 801), (818, 806), (818, 813), (818, 1048), (818, 1799), (818, 2858), (818, 2916), (818, 2937), (818, 2957), (818, 3145), (819, 820), (819, 3145), (820, 823), (820, 3145), (821, 815), (821, 829), (821, 831), (821, 3145), (822, 826), (822, 2799), (822, 3145), (823, 2750), (823, 3145), (824, 3145), (825, 822), (825, 1396), (825, 3145), (826, 2799), (826, 3145), (827, 2858), (827, 2921), (827, 2937), (827, 2957), (827, 3145), (828, 819), (828, 3145), (829, 171), (829, 3145), (830, 2799), (830, 3145), (831, 171), (831, 3145), (832, 819), (832, 828), (832, 830), (832, 3145), (833, 820), (833, 2799), (833, 3145), (834, 828), (834, 2858), (834, 2921), (834, 2937), (834, 2957), (834, 3145), (835, 817), (835, 842), (835, 862), (835, 891), (835, 899), (835, 900), (835, 901), (835, 902), (835, 903), (835, 949), (835, 1616), (835, 2044), (835, 2049), (835, 2144), (835, 2372), (835, 2375), (835, 2799), (835, 3115), (835, 3143), (835, 3145), (836, 835), (836, 3145), (837, 835), (837, 3145), (838, 835), (838, 3145), (839, 800), (839, 817), (839, 862), (839, 891), (839, 899), (839, 900), (839, 901), (839, 902), (839, 903), (839, 949), (839, 1616), (839, 2372), (839, 2375), (839, 2799), (839, 3115), (839, 3145), (840, 1467), (840, 1743), (840, 2588), (840, 3145), (841, 861), (841, 2799), (841, 3145), (842, 776), (842, 777), (842, 780), (842, 1421), (842, 2221), (842, 3031), (842, 3145), (843, 861), (843, 3145), (844, 827), (844, 850), (844, 892), (844, 893), (844, 2109), (844, 2799), (844, 3114), (844, 3117), (844, 3145), (845, 438), (845, 674), (845, 722), (845, 803), (845, 808), (845, 816), (845, 843), (845, 846), (845, 847), (845, 848), (845, 849), (845, 852), (845, 889), (845, 890), (845, 949), (845, 1799), (845, 2406), (845, 2438), (845, 2443), (845, 2789), (845, 3145), (846, 892), (846, 3117), (846, 3145), (847, 2664), (847, 3145), (848, 893), (848, 3117), (848, 3145), (849, 438), (849, 1799), (849, 2645), (849, 3145), (850, 721), (850, 851), (850, 2799), (850, 3145), (851, 2217), (851, 2799), (851, 3145), (852, 22), (852, 86), (852, 90), (852, 91), (852, 298), (852, 300), (852, 385), (852, 437), (852, 438), (852, 558), (852, 670), (852, 716), (852, 722), (852, 739), (852, 799), (852, 809), (852, 819), (852, 853), (852, 854), (852, 856), (852, 857), (852, 859), (852, 871), (852, 1335), (852, 1385), (852, 1421), (852, 1453), (852, 1458), (852, 1774), (852, 1799), (852, 2082), (852, 2109), (852, 2120), (852, 2287), (852, 2391), (852, 2443), (852, 2454), (852, 2750), (852, 2789), (852, 2799), (852, 2808), (852, 2858), (852, 2897), (852, 2937), (852, 2957), (852, 3031), (852, 3145), (853, 844), (853, 3145), (854, 351), (854, 855), (854, 882), (854, 2331), (854, 2454), (854, 3145), (855, 867), (855, 3145), (856, 2645), (856, 3145), (857, 858), (857, 894), (857, 1637), (857, 2789), (857, 3145), (858, 1421), (858, 1954), (858, 3031), (858, 3145), (859, 1694), (859, 3145), (860, 170), (860, 676), (860, 1042), (860, 3013), (860, 3145), (861, 1394), (861, 1912), (861, 3145)]
noncomputable def edges13 : List (Nat × Nat) := [(862, 3145), (863, 171), (863, 1062), (863, 3145), (864, 171), (864, 1372), (864, 3145), (865, 780), (865, 949), (865, 999), (865, 1048), (865, 1049), (865, 1421), (865, 3031), (865, 3145), (866, 86), (866, 780), (866, 949), (866, 999), (866, 1421), (866, 2287), (866, 3145), (867, 89), (867, 136), (867, 137), (867, 170), (867, 868), (867, 3143), (867, 3145), (868, 492), (868, 3145), (869, 147), (869, 148), (869, 720), (869, 870), (869, 1421), (869, 3031), (869, 3145), (870, 3145), (871, 170), (871, 721), (871, 872), (871, 3145), (872, 1629), (872, 3145), (873, 2376), (873, 3145), (874, 1743), (874, 2372), (874, 2376), (874, 2579), (874, 3145), (875, 861), (875, 893), (875, 3145), (876, 22), (876, 86), (876, 392), (876, 438), (876, 788), (876, 789), (876, 803), (876, 832), (876, 860), (876, 867), (876, 869), (876, 877), (876, 878), (876, 879), (876, 880), (876, 886), (876, 949), (876, 1799), (876, 1871), (876, 2014), (876, 2287), (876, 2406), (876, 2438), (876, 2443), (876, 2454), (876, 2469), (876, 2690), (876, 2789), (876, 2799), (876, 2858), (876, 2900), (876, 2937), (876, 2957), (876, 3145), (877, 3145), (878, 2664), (878, 3145), (879, 684), (879, 3145), (880, 799), (880, 2645), (880, 3145), (881, 3145), (882, 94), (882, 170), (882, 735), (882, 736), (882, 1421), (882, 1453), (882, 1458), (882, 1637), (882, 2082), (882, 2221), (882, 2683), (882, 2690), (882, 2799), (882, 3031), (882, 3145), (883, 17), (883, 122), (883, 699), (883, 700), (883, 1421), (883, 2109), (883, 2438), (883, 2443), (883, 2799), (883, 3031), (883, 3145), (884, 949), (884, 3145), (885, 23), (885, 89), (885, 676), (885, 949), (885, 1869), (885, 3145), (886, 833), (886, 3145), (887, 1059), (887, 3145), (888, 774), (888, 949), (888, 999), (888, 1421), (888, 3031), (888, 3145), (889, 778), (889, 1335), (889, 1421), (889, 3031), (889, 3145), (890, 778), (890, 1335), (890, 1421), (890, 3031), (890, 3145), (891, 817), (891, 946), (891, 1051), (891, 2149), (891, 3145), (892, 1916), (892, 2148), (892, 2149), (892, 2595), (892, 2596), (892, 3145), (893, 2595), (893, 3145), (894, 3145), (895, 946), (895, 3016), (895, 3145), (896, 817), (896, 895), (896, 946), (896, 1430), (896, 2149), (896, 3145), (897, 817), (897, 895), (897, 946), (897, 2149), (897, 3145), (898, 3145), (899, 895), (899, 2148), (899, 3016), (899, 3145), (900, 3145), (901, 1913), (901, 1914), (901, 2600), (901, 2602), (901, 3145), (902, 2602), (902, 3145), (903, 346), (903, 949), (903, 1913), (903, 1914), (903, 2144), (903, 2192), (903, 2193), (903, 2194), (903, 2196), (903, 2600), (903, 3145), (904, 3143), (904, 3144), (904, 3145), (905, 3143), (905, 3144), (905, 3145), (906, 3143), (906, 3144), (906, 3145), (907, 3143), (907, 3144), (907, 3145), (908, 3143), (908, 3144), (908, 3145), (909, 3143), (909, 3144), (909, 3145), (910, 3143), (910, 3144), (910, 3145), (911, 3143), (911, 3144), (911, 3145), (912, 3143), (912, 3144), (912, 3145), (913, 3143), (913, 3144), (913, 3145), (914, 3143), (914, 3144), (914, 3145), (915, 3143), (915, 3144), (915, 3145), (916, 3143), (916, 3144), (916, 3145), (917, 3143), (917, 3144), (917, 3145), (918, 3143), (918, 3144), (918, 3145), (919, 3006)]
noncomputable def edges14 : List (Nat × Nat) := [(919, 3053), (919, 3145), (920, 3145), (921, 216), (921, 217), (921, 3145), (922, 821), (922, 1417), (922, 1423), (922, 2205), (922, 2206), (922, 2799), (922, 3145), (923, 3145), (924, 887), (924, 949), (924, 1612), (924, 1743), (924, 1762), (924, 1767), (924, 1772), (924, 1955), (924, 2144), (924, 2799), (924, 3145), (925, 3145), (926, 949), (926, 1421), (926, 1799), (926, 1878), (926, 2288), (926, 2667), (926, 2799), (926, 3031), (926, 3145), (927, 300), (927, 553), (927, 812), (927, 949), (927, 959), (927, 996), (927, 1373), (927, 2144), (927, 2799), (927, 3145), (928, 3145), (929, 2409), (929, 3145), (930, 3145), (931, 134), (931, 147), (931, 148), (931, 149), (931, 3145), (932, 170), (932, 1743), (932, 1776), (932, 2589), (932, 3145), (933, 1432), (933, 1788), (933, 3036), (933, 3145), (934, 935), (934, 3145), (935, 96), (935, 492), (935, 936), (935, 1907), (935, 2014), (935, 2789), (935, 3145), (936, 242), (936, 3145), (937, 156), (937, 680), (937, 1037), (937, 3145), (938, 396), (938, 1869), (938, 1896), (938, 2201), (938, 2572), (938, 3145), (939, 3145), (940, 2144), (940, 3145), (941, 23), (941, 86), (941, 122), (941, 699), (941, 700), (941, 944), (941, 1082), (941, 1421), (941, 2144), (941, 2287), (941, 2376), (941, 2799), (941, 3031), (941, 3145), (942, 86), (942, 699), (942, 1421), (942, 1743), (942, 1747), (942, 1776), (942, 2287), (942, 2582), (942, 2589), (942, 3031), (942, 3145), (943, 3145), (944, 23), (944, 86), (944, 1082), (944, 1364), (944, 1421), (944, 1743), (944, 1747), (944, 1776), (944, 2287), (944, 2589), (944, 2799), (944, 3031), (944, 3145), (945, 948), (945, 3145), (946, 947), (946, 1393), (946, 1395), (946, 1421), (946, 1430), (946, 1462), (946, 1465), (946, 1743), (946, 2148), (946, 2789), (946, 2799), (946, 3031), (946, 3123), (946, 3145), (947, 1689), (947, 3145), (948, 3143), (948, 3144), (948, 3145), (949, 3143), (949, 3144), (949, 3145), (950, 1374), (950, 1376), (950, 1378), (950, 1421), (950, 2014), (950, 2325), (950, 2799), (950, 2856), (950, 3031), (950, 3145), (951, 949), (951, 3145), (952, 3143), (952, 3144), (952, 3145), (953, 2498), (953, 3145), (954, 3143), (954, 3144), (954, 3145), (955, 160), (955, 772), (955, 773), (955, 774), (955, 956), (955, 957), (955, 1421), (955, 1737), (955, 2168), (955, 2789), (955, 3031), (955, 3145), (956, 2632), (956, 3074), (956, 3145), (957, 2627), (957, 3082), (957, 3145), (958, 772), (958, 773), (958, 775), (958, 779), (958, 1421), (958, 3031), (958, 3145), (959, 773), (959, 774), (959, 775), (959, 779), (959, 1421), (959, 2217), (959, 2632), (959, 2799), (959, 3031), (959, 3074), (959, 3145), (960, 168), (960, 777), (960, 3145), (961, 168), (961, 777), (961, 780), (961, 3145), (962, 168), (962, 780), (962, 3145), (963, 168), (963, 781), (963, 3145), (964, 168), (964, 779), (964, 3145), (965, 1979), (965, 3145), (966, 1979), (966, 3145), (967, 1979), (967, 3145), (968, 1979), (968, 3145), (969, 1979), (969, 3145), (970, 1979), (970, 3145), (971, 1979), (971, 3145), (972, 1979), (972, 3145), (973, 1979), (973, 3145), (974, 1979), (974, 3145), (975, 1979), (975, 3145), (976, 1979), (976, 3145), (977, 1979), (977, 3145), (978, 1979), (978, 3145)]
noncomputable def edges15 : List (Nat × Nat) := [(979, 1979), (979, 3145), (980, 1979), (980, 3145), (981, 1979), (981, 3145), (982, 2799), (982, 3099), (982, 3145), (983, 156), (983, 1037), (983, 3145), (984, 1501), (984, 1677), (984, 3145), (985, 2157), (985, 2179), (985, 3143), (985, 3145), (986, 2292), (986, 3143), (986, 3145), (987, 1266), (987, 1679), (987, 1681), (987, 1682), (987, 2799), (987, 3145), (988, 482), (988, 3145), (989, 986), (989, 3145), (990, 991), (990, 3145), (991, 156), (991, 1035), (991, 3145), (992, 3143), (992, 3144), (992, 3145), (993, 927), (993, 1656), (993, 2412), (993, 3145), (994, 949), (994, 993), (994, 1640), (994, 2165), (994, 2180), (994, 2720), (994, 2858), (994, 2907), (994, 2937), (994, 2957), (994, 3145), (995, 610), (995, 611), (995, 2799), (995, 3145), (996, 3143), (996, 3144), (996, 3145), (997, 77), (997, 80), (997, 651), (997, 949), (997, 985), (997, 2083), (997, 2112), (997, 2799), (997, 2860), (997, 2888), (997, 3143), (997, 3145), (998, 86), (998, 356), (998, 1640), (998, 2002), (998, 2217), (998, 2287), (998, 2799), (998, 3145), (999, 998), (999, 2003), (999, 3145), (1000, 1029), (1000, 3145), (1001, 1002), (1001, 2789), (1001, 3145), (1002, 2221), (1002, 3145), (1003, 949), (1003, 1004), (1003, 2789), (1003, 3145), (1004, 1337), (1004, 1340), (1004, 1342), (1004, 1829), (1004, 3053), (1004, 3055), (1004, 3057), (1004, 3058), (1004, 3145), (1005, 17), (1005, 3145), (1006, 1007), (1006, 3145), (1007, 721), (1007, 1008), (1007, 1481), (1007, 2157), (1007, 3145), (1008, 1009), (1008, 2217), (1008, 2789), (1008, 3145), (1009, 2368), (1009, 3145), (1010, 1014), (1010, 3145), (1011, 3145), (1012, 3145), (1013, 3145), (1014, 1015), (1014, 3145), (1015, 721), (1015, 925), (1015, 949), (1015, 1013), (1015, 1016), (1015, 1017), (1015, 1018), (1015, 1481), (1015, 2157), (1015, 2438), (1015, 2443), (1015, 2642), (1015, 2661), (1015, 2789), (1015, 3145), (1016, 2368), (1016, 3145), (1017, 22), (1017, 3014), (1017, 3145), (1018, 1013), (1018, 3145), (1019, 721), (1019, 949), (1019, 1020), (1019, 1021), (1019, 1022), (1019, 1023), (1019, 1481), (1019, 2157), (1019, 2642), (1019, 2661), (1019, 2789), (1019, 3145), (1020, 1373), (1020, 2217), (1020, 3145), (1021, 3143), (1021, 3145), (1022, 2368), (1022, 3145), (1023, 1024), (1023, 2789), (1023, 3143), (1023, 3145), (1024, 2368), (1024, 3145), (1025, 1001), (1025, 3145), (1026, 3145), (1027, 3145), (1028, 949), (1028, 1030), (1028, 1640), (1028, 3145), (1029, 300), (1029, 553), (1029, 572), (1029, 962), (1029, 1421), (1029, 2144), (1029, 2217), (1029, 2342), (1029, 2412), (1029, 2799), (1029, 2858), (1029, 2909), (1029, 2910), (1029, 2937), (1029, 2957), (1029, 3031), (1029, 3108), (1029, 3145), (1030, 1029), (1030, 3145), (1031, 1032), (1031, 1640), (1031, 3145), (1032, 292), (1032, 996), (1032, 1029), (1032, 3145), (1033, 3145), (1034, 1033), (1034, 1864), (1034, 3145), (1035, 680), (1035, 1677), (1035, 2199), (1035, 3145), (1036, 1677), (1036, 2199), (1036, 3145), (1037, 680), (1037, 3145), (1038, 597), (1038, 2199), (1038, 3145), (1039, 949), (1039, 3145), (1040, 356), (1040, 1041), (1040, 1640), (1040, 3145), (1041, 300), (1041, 553), (1041, 2144), (1041, 2342), (1041, 2412), (1041, 2858), (1041, 2909), (1041, 2937), (1041, 2957), (1041, 3145), (1042, 840), (1042, 896), (1042, 898), (1042, 949), (1042, 1611), (1042, 1612), (1042, 1743), (1042, 1757), (1042, 1762)]
noncomputable def edges16 : List (Nat × Nat) := [(1042, 1955), (1042, 2448), (1042, 2579), (1042, 2799), (1042, 3145), (1043, 96), (1043, 158), (1043, 249), (1043, 1043), (1043, 1369), (1043, 1501), (1043, 1656), (1043, 1677), (1043, 1739), (1043, 1863), (1043, 2174), (1043, 2320), (1043, 3145), (1044, 96), (1044, 1043), (1044, 1656), (1044, 1677), (1044, 2320), (1044, 3145), (1045, 741), (1045, 1044), (1045, 3145), (1046, 741), (1046, 949), (1046, 1043), (1046, 3145), (1047, 3145), (1048, 3145), (1049, 3145), (1050, 949), (1050, 2223), (1050, 3129), (1050, 3145), (1051, 946), (1051, 1677), (1051, 2149), (1051, 3145), (1052, 776), (1052, 875), (1052, 1421), (1052, 1799), (1052, 1878), (1052, 2021), (1052, 2339), (1052, 2647), (1052, 2852), (1052, 2888), (1052, 2952), (1052, 2963), (1052, 3031), (1052, 3103), (1052, 3143), (1052, 3145), (1053, 3145), (1054, 3145), (1055, 3145), (1056, 1055), (1056, 1057), (1056, 3145), (1057, 3145), (1058, 147), (1058, 148), (1058, 149), (1058, 3145), (1059, 3145), (1060, 2583), (1060, 3145), (1061, 3145), (1062, 2750), (1062, 3145), (1063, 546), (1063, 3145), (1064, 546), (1064, 1059), (1064, 1781), (1064, 2799), (1064, 3145), (1065, 546), (1065, 1059), (1065, 2799), (1065, 3133), (1065, 3145), (1066, 546), (1066, 2799), (1066, 3145), (1067, 412), (1067, 3145), (1068, 3145), (1069, 1050), (1069, 3145), (1070, 3145), (1071, 1072), (1071, 3145), (1072, 1050), (1072, 1073), (1072, 1074), (1072, 3143), (1072, 3145), (1073, 3145), (1074, 3145), (1075, 2799), (1075, 3145), (1076, 1072), (1076, 1075), (1076, 3145), (1077, 3145), (1078, 1348), (1078, 1869), (1078, 3145), (1079, 2327), (1079, 2856), (1079, 3143), (1079, 3145), (1080, 3145), (1081, 3145), (1082, 1081), (1082, 1666), (1082, 2014), (1082, 3145), (1083, 1467), (1083, 1743), (1083, 2588), (1083, 3145), (1084, 3145), (1085, 3145), (1086, 134), (1086, 170), (1086, 1743), (1086, 1776), (1086, 2589), (1086, 3145), (1087, 2588), (1087, 3145), (1088, 3145), (1089, 358), (1089, 1421), (1089, 3031), (1089, 3145), (1090, 425), (1090, 1365), (1090, 3145), (1091, 2589), (1091, 3145), (1092, 22), (1092, 172), (1092, 173), (1092, 678), (1092, 727), (1092, 753), (1092, 1093), (1092, 1423), (1092, 2799), (1092, 3140), (1092, 3145), (1093, 949), (1093, 3145), (1094, 3145), (1095, 3145), (1096, 3145), (1097, 3145), (1098, 3145), (1099, 3145), (1100, 3145), (1101, 3145), (1102, 3145), (1103, 3145), (1104, 3145), (1105, 3145), (1106, 3145), (1107, 3145), (1108, 3145), (1109, 3145), (1110, 3145), (1111, 3145), (1112, 3145), (1113, 3145), (1114, 3145), (1115, 3145), (1116, 3145), (1117, 3145), (1118, 3145), (1119, 3145), (1120, 3145), (1121, 3145), (1122, 3145), (1123, 3145), (1124, 3145), (1125, 3145), (1126, 3145), (1127, 705), (1127, 3145), (1128, 3145), (1129, 3145), (1130, 3145), (1131, 3145), (1132, 592), (1132, 3145), (1133, 3145), (1134, 3145), (1135, 3145), (1136, 3145), (1137, 3145), (1138, 3145), (1139, 3145), (1140, 3145), (1141, 3145), (1142, 3145), (1143, 3145), (1144, 3145), (1145, 3145), (1146, 1499), (1146, 1503), (1146, 1504), (1146, 1505), (1146, 1506), (1146, 1507), (1146, 1508), (1146, 1509), (1146, 1510), (1146, 1511), (1146, 1512), (1146, 1513), (1146, 1514), (1146, 1515), (1146, 1516), (1146, 1517), (1146, 1518), (1146, 1519), (1146, 1520), (1146, 1521), (1146, 1522), (1146, 1523), (1146, 1524), (1146, 1525), (1146, 1526), (1146, 1527), (1146, 1532), (1146, 1533), (1146, 1534), (1146, 1535), (1146, 1536), (1146, 1537), (1146, 1538), (1146, 1539), (1146, 1540)]
noncomputable def edges17 : List (Nat × Nat) := [(1146, 1541), (1146, 1542), (1146, 1543), (1146, 1544), (1146, 1545), (1146, 1546), (1146, 1547), (1146, 1548), (1146, 1549), (1146, 1550), (1146, 1551), (1146, 1552), (1146, 1553), (1146, 1554), (1146, 1555), (1146, 1556), (1146, 1557), (1146, 1559), (1146, 1560), (1146, 1561), (1146, 1562), (1146, 1563), (1146, 1564), (1146, 1565), (1146, 1566), (1146, 1567), (1146, 1568), (1146, 1569), (1146, 1570), (1146, 1571), (1146, 1572), (1146, 1573), (1146, 3145), (1147, 3145), (1148, 3145), (1149, 3145), (1150, 3145), (1151, 3145), (1152, 3145), (1153, 3145), (1154, 3145), (1155, 3145), (1156, 3145), (1157, 3145), (1158, 3145), (1159, 3145), (1160, 3145), (1161, 3145), (1162, 3145), (1163, 3145), (1164, 3145), (1165, 3145), (1166, 3145), (1167, 3145), (1168, 3145), (1169, 3145), (1170, 3145), (1171, 3145), (1172, 3145), (1173, 3145), (1174, 3145), (1175, 3145), (1176, 3145), (1177, 3145), (1178, 3145), (1179, 3145), (1180, 3145), (1181, 3145), (1182, 3145), (1183, 3145), (1184, 3145), (1185, 592), (1185, 3145), (1186, 3145), (1187, 3145), (1188, 3145), (1189, 3145), (1190, 3145), (1191, 3145), (1192, 3145), (1193, 3145), (1194, 1195), (1194, 3145), (1195, 3145), (1196, 3145), (1197, 3145), (1198, 3145), (1199, 3145), (1200, 3145), (1201, 3145), (1202, 3145), (1203, 3145), (1204, 3145), (1205, 3145), (1206, 3145), (1207, 3145), (1208, 3145), (1209, 3145), (1210, 3145), (1211, 3145), (1212, 3145), (1213, 3145), (1214, 3145), (1215, 3145), (1216, 339), (1216, 343), (1216, 3145), (1217, 3145), (1218, 3145), (1219, 3145), (1220, 3145), (1221, 125), (1221, 1222), (1221, 3145), (1222, 2541), (1222, 3145), (1223, 3145), (1224, 3145), (1225, 3145), (1226, 3145), (1227, 3145), (1228, 3145), (1229, 3145), (1230, 3145), (1231, 3145), (1232, 3145), (1233, 3145), (1234, 3145), (1235, 3145), (1236, 3145), (1237, 3145), (1238, 3145), (1239, 3145), (1240, 3145), (1241, 3145), (1242, 3145), (1243, 3145), (1244, 3145), (1245, 3145), (1246, 3145), (1247, 3145), (1248, 3145), (1249, 3145), (1250, 3145), (1251, 3145), (1252, 3145), (1253, 3145), (1254, 3145), (1255, 3145), (1256, 3145), (1257, 3145), (1258, 3145), (1259, 3145), (1260, 3145), (1261, 3145), (1262, 3145), (1263, 3145), (1264, 3145), (1265, 231), (1265, 3145), (1266, 399), (1266, 702), (1266, 1267), (1266, 1268), (1266, 1269), (1266, 1270), (1266, 1271), (1266, 1272), (1266, 1273), (1266, 1274), (1266, 1275), (1266, 1276), (1266, 1277), (1266, 1278), (1266, 1279), (1266, 1280), (1266, 1281), (1266, 1282), (1266, 1283), (1266, 1284), (1266, 1285), (1266, 1286), (1266, 1287), (1266, 1288), (1266, 1289), (1266, 1290), (1266, 1291), (1266, 1292), (1266, 1293), (1266, 1294), (1266, 1295), (1266, 1296), (1266, 1297), (1266, 1298), (1266, 1299), (1266, 1300), (1266, 1301), (1266, 1302), (1266, 1303), (1266, 1304), (1266, 1305), (1266, 1306), (1266, 1307), (1266, 1308), (1266, 1309), (1266, 1310), (1266, 1311), (1266, 1312), (1266, 1313), (1266, 1314), (1266, 1315), (1266, 1316), (1266, 1317), (1266, 1318), (1266, 1319), (1266, 1320), (1266, 1321), (1266, 1322), (1266, 1323), (1266, 1324), (1266, 1325), (1266, 1326), (1266, 1327), (1266, 1328), (1266, 1329), (1266, 1330), (1266, 1331), (1266, 1332), (1266, 1484), (1266, 2805), (1266, 3145), (1267, 33), (1267, 3145), (1268, 704), (1268, 1884), (1268, 3145), (1269, 704), (1269, 1884), (1269, 3145), (1270, 704), (1270, 1884), (1270, 3145), (1271, 3145), (1272, 3145), (1273, 3145), (1274, 3145), (1275, 3145), (1276, 3145), (1277, 3145), (1278, 704)]
noncomputable def edges18 : List (Nat × Nat) := [(1278, 1884), (1278, 3145), (1279, 3145), (1280, 3145), (1281, 3145), (1282, 3145), (1283, 1680), (1283, 3145), (1284, 3145), (1285, 3145), (1286, 1680), (1286, 3145), (1287, 3145), (1288, 3145), (1289, 704), (1289, 1884), (1289, 3145), (1290, 3145), (1291, 3145), (1292, 3145), (1293, 3145), (1294, 3145), (1295, 3145), (1296, 3145), (1297, 2804), (1297, 3145), (1298, 3145), (1299, 3145), (1300, 704), (1300, 1884), (1300, 3145), (1301, 3145), (1302, 3145), (1303, 3145), (1304, 3145), (1305, 3145), (1306, 3145), (1307, 3145), (1308, 3145), (1309, 3145), (1310, 3145), (1311, 704), (1311, 1884), (1311, 3145), (1312, 3145), (1313, 3145), (1314, 3145), (1315, 3145), (1316, 3145), (1317, 3145), (1318, 3145), (1319, 3145), (1320, 3145), (1321, 3145), (1322, 704), (1322, 1884), (1322, 3145), (1323, 2804), (1323, 3145), (1324, 2804), (1324, 3145), (1325, 2804), (1325, 3145), (1326, 2804), (1326, 3145), (1327, 2804), (1327, 3145), (1328, 3145), (1329, 704), (1329, 1884), (1329, 2857), (1329, 3145), (1330, 704), (1330, 1884), (1330, 3145), (1331, 704), (1331, 1884), (1331, 3145), (1332, 704), (1332, 1884), (1332, 3145), (1333, 3145), (1334, 953), (1334, 2482), (1334, 2484), (1334, 2492), (1334, 2493), (1334, 2547), (1334, 3145), (1335, 300), (1335, 769), (1335, 772), (1335, 776), (1335, 777), (1335, 780), (1335, 949), (1335, 963), (1335, 1048), (1335, 1336), (1335, 1421), (1335, 2144), (1335, 2343), (1335, 2858), (1335, 2916), (1335, 2937), (1335, 2957), (1335, 3031), (1335, 3108), (1335, 3143), (1335, 3145), (1336, 86), (1336, 1421), (1336, 2020), (1336, 2287), (1336, 2647), (1336, 3031), (1336, 3145), (1337, 3145), (1338, 759), (1338, 3145), (1339, 3145), (1340, 750), (1340, 1341), (1340, 3145), (1341, 2010), (1341, 3145), (1342, 751), (1342, 3145), (1343, 3145), (1344, 1670), (1344, 1869), (1344, 3145), (1345, 1672), (1345, 1869), (1345, 3145), (1346, 1079), (1346, 3145), (1347, 194), (1347, 243), (1347, 346), (1347, 950), (1347, 3145), (1348, 2327), (1348, 2856), (1348, 3012), (1348, 3025), (1348, 3145), (1349, 649), (1349, 3145), (1350, 1799), (1350, 3145), (1351, 2439), (1351, 3145), (1352, 2444), (1352, 3145), (1353, 949), (1353, 2144), (1353, 2339), (1353, 3145), (1354, 2124), (1354, 3145), (1355, 2799), (1355, 3145), (1356, 1035), (1356, 3145), (1357, 23), (1357, 86), (1357, 866), (1357, 1364), (1357, 1747), (1357, 2287), (1357, 2486), (1357, 2589), (1357, 3145), (1358, 941), (1358, 3145), (1359, 597), (1359, 2199), (1359, 2572), (1359, 3145), (1360, 678), (1360, 752), (1360, 3145), (1361, 292), (1361, 678), (1361, 750), (1361, 752), (1361, 756), (1361, 762), (1361, 1342), (1361, 1829), (1361, 2011), (1361, 2619), (1361, 2799), (1361, 3145), (1362, 3145), (1363, 1367), (1363, 3145), (1364, 3145), (1365, 1363), (1365, 1367), (1365, 3145), (1366, 676), (1366, 1611), (1366, 1762), (1366, 3145), (1367, 3145), (1368, 23), (1368, 1748), (1368, 1767), (1368, 2023), (1368, 2028), (1368, 2589), (1368, 3145), (1369, 3145), (1370, 3145), (1371, 2217), (1371, 3099), (1371, 3145), (1372, 92), (1372, 3145), (1373, 678), (1373, 752), (1373, 760), (1373, 3145), (1374, 196), (1374, 949), (1374, 1377), (1374, 1382), (1374, 1501), (1374, 2799), (1374, 3145), (1375, 3145), (1376, 96), (1376, 2032), (1376, 2325), (1376, 2328), (1376, 2329), (1376, 2856), (1376, 3145), (1377, 96), (1377, 1375), (1377, 3145), (1378, 96), (1378, 1375), (1378, 3145), (1379, 573), (1379, 588), (1379, 3145), (1380, 89)]
noncomputable def edges19 : List (Nat × Nat) := [(1380, 1374), (1380, 1421), (1380, 1423), (1380, 3031), (1380, 3145), (1381, 3143), (1381, 3145), (1382, 96), (1382, 3143), (1382, 3145), (1383, 240), (1383, 241), (1383, 1421), (1383, 3031), (1383, 3143), (1383, 3145), (1384, 3145), (1385, 3145), (1386, 3145), (1387, 3145), (1388, 2187), (1388, 3145), (1389, 2187), (1389, 3145), (1390, 2191), (1390, 3145), (1391, 3145), (1392, 3145), (1393, 676), (1393, 1397), (1393, 2799), (1393, 3145), (1394, 3145), (1395, 1398), (1395, 2124), (1395, 3145), (1396, 1397), (1396, 3145), (1397, 2793), (1397, 3145), (1398, 2791), (1398, 3145), (1399, 1334), (1399, 3145), (1400, 1403), (1400, 1404), (1400, 1479), (1400, 3145), (1401, 1404), (1401, 1479), (1401, 3145), (1402, 797), (1402, 798), (1402, 1403), (1402, 1404), (1402, 2799), (1402, 3145), (1403, 3145), (1404, 3145), (1405, 135), (1405, 2747), (1405, 2765), (1405, 3145), (1406, 3145), (1407, 3145), (1408, 2799), (1408, 3145), (1409, 3145), (1410, 3145), (1411, 1408), (1411, 3145), (1412, 1408), (1412, 3145), (1413, 1408), (1413, 1411), (1413, 3145), (1414, 3145), (1415, 2799), (1415, 3145), (1416, 3145), (1417, 3145), (1418, 1415), (1418, 3145), (1419, 1415), (1419, 3145), (1420, 1415), (1420, 1418), (1420, 3145), (1421, 939), (1421, 1429), (1421, 3145), (1422, 441), (1422, 949), (1422, 1387), (1422, 1443), (1422, 1445), (1422, 1794), (1422, 1797), (1422, 1907), (1422, 2124), (1422, 2440), (1422, 2441), (1422, 2799), (1422, 3145), (1423, 3145), (1424, 541), (1424, 949), (1424, 3145), (1425, 3145), (1426, 939), (1426, 1430), (1426, 3145), (1427, 939), (1427, 1430), (1427, 3145), (1428, 2320), (1428, 2799), (1428, 3145), (1429, 1422), (1429, 3145), (1430, 3145), (1431, 949), (1431, 3145), (1432, 1908), (1432, 3071), (1432, 3145), (1433, 3145), (1434, 2799), (1434, 3145), (1435, 2799), (1435, 3145), (1436, 2799), (1436, 3145), (1437, 3145), (1438, 3145), (1439, 3145), (1440, 3145), (1441, 949), (1441, 1442), (1441, 2789), (1441, 3145), (1442, 3006), (1442, 3054), (1442, 3145), (1443, 1799), (1443, 3145), (1444, 347), (1444, 1441), (1444, 3145), (1445, 348), (1445, 1799), (1445, 3145), (1446, 949), (1446, 1447), (1446, 3145), (1447, 68), (1447, 86), (1447, 2287), (1447, 2366), (1447, 3145), (1448, 949), (1448, 1873), (1448, 1874), (1448, 3145), (1449, 3145), (1450, 3145), (1451, 3145), (1452, 1482), (1452, 3145), (1453, 1421), (1453, 1451), (1453, 1454), (1453, 3031), (1453, 3145), (1454, 168), (1454, 240), (1454, 1654), (1454, 3145), (1455, 240), (1455, 1421), (1455, 1450), (1455, 3031), (1455, 3145), (1456, 240), (1456, 290), (1456, 1421), (1456, 1450), (1456, 1457), (1456, 2656), (1456, 2789), (1456, 3031), (1456, 3145), (1457, 2481), (1457, 3145), (1458, 1449), (1458, 3145), (1459, 1421), (1459, 1450), (1459, 1454), (1459, 3031), (1459, 3145), (1460, 168), (1460, 361), (1460, 2799), (1460, 3145), (1461, 3145), (1462, 2799), (1462, 3145), (1463, 2799), (1463, 3145), (1464, 3145), (1465, 2799), (1465, 3145), (1466, 1464), (1466, 3145), (1467, 3145), (1468, 3145), (1469, 3145), (1470, 3145), (1471, 3145), (1472, 3143), (1472, 3144), (1472, 3145), (1473, 22), (1473, 33), (1473, 328), (1473, 481), (1473, 536), (1473, 619), (1473, 921), (1473, 949), (1473, 998), (1473, 1424), (1473, 1434), (1473, 1474), (1473, 1475), (1473, 1476), (1473, 1799), (1473, 2007), (1473, 2163), (1473, 2333), (1473, 2641), (1473, 2789), (1473, 2799), (1473, 3034), (1473, 3143), (1473, 3145), (1474, 1847), (1474, 2786), (1474, 3145)]
noncomputable def edges20 : List (Nat × Nat) := [(1475, 3034), (1475, 3145), (1476, 3143), (1476, 3144), (1476, 3145), (1477, 2799), (1477, 3145), (1478, 3145), (1479, 3145), (1480, 2799), (1480, 3145), (1481, 3145), (1482, 3145), (1483, 230), (1483, 3145), (1484, 3145), (1485, 2976), (1485, 3145), (1486, 7), (1486, 9), (1486, 1485), (1486, 3145), (1487, 96), (1487, 949), (1487, 1053), (1487, 1423), (1487, 1501), (1487, 2799), (1487, 3145), (1488, 1487), (1488, 3145), (1489, 1777), (1489, 2588), (1489, 2737), (1489, 2741), (1489, 2799), (1489, 3020), (1489, 3145), (1490, 3145), (1491, 1490), (1491, 3145), (1492, 3145), (1493, 1501), (1493, 1987), (1493, 1988), (1493, 3145), (1494, 1493), (1494, 1987), (1494, 1988), (1494, 3145), (1495, 96), (1495, 158), (1495, 249), (1495, 1495), (1495, 1501), (1495, 1656), (1495, 1677), (1495, 1739), (1495, 1988), (1495, 2174), (1495, 3145), (1496, 1497), (1496, 2319), (1496, 2789), (1496, 3145), (1497, 2627), (1497, 3082), (1497, 3145), (1498, 2799), (1498, 3145), (1499, 3145), (1500, 103), (1500, 477), (1500, 949), (1500, 1343), (1500, 1426), (1500, 1513), (1500, 2062), (1500, 2076), (1500, 2799), (1500, 3079), (1500, 3145), (1501, 103), (1501, 157), (1501, 160), (1501, 477), (1501, 949), (1501, 1059), (1501, 1426), (1501, 1502), (1501, 1528), (1501, 1530), (1501, 1531), (1501, 1558), (1501, 1737), (1501, 2062), (1501, 2076), (1501, 2168), (1501, 2228), (1501, 2799), (1501, 3079), (1501, 3143), (1501, 3145), (1502, 86), (1502, 876), (1502, 886), (1502, 924), (1502, 940), (1502, 949), (1502, 1063), (1502, 1633), (1502, 1657), (1502, 1743), (1502, 2141), (1502, 2143), (1502, 2287), (1502, 2799), (1502, 3145), (1503, 86), (1503, 103), (1503, 477), (1503, 548), (1503, 876), (1503, 886), (1503, 924), (1503, 940), (1503, 949), (1503, 1426), (1503, 1529), (1503, 1634), (1503, 1635), (1503, 1656), (1503, 1743), (1503, 2062), (1503, 2076), (1503, 2141), (1503, 2143), (1503, 2287), (1503, 2799), (1503, 3079), (1503, 3145), (1504, 86), (1504, 103), (1504, 477), (1504, 548), (1504, 876), (1504, 886), (1504, 924), (1504, 940), (1504, 949), (1504, 1426), (1504, 1529), (1504, 1634), (1504, 1635), (1504, 1656), (1504, 1743), (1504, 2062), (1504, 2076), (1504, 2141), (1504, 2143), (1504, 2287), (1504, 2799), (1504, 3079), (1504, 3145), (1505, 86), (1505, 103), (1505, 477), (1505, 548), (1505, 876), (1505, 886), (1505, 924), (1505, 940), (1505, 949), (1505, 1426), (1505, 1529), (1505, 1634), (1505, 1635), (1505, 1656), (1505, 1743), (1505, 2062), (1505, 2076), (1505, 2141), (1505, 2143), (1505, 2287), (1505, 2799), (1505, 3079), (1505, 3145), (1506, 86), (1506, 103), (1506, 477), (1506, 548), (1506, 876), (1506, 886), (1506, 924), (1506, 940), (1506, 949), (1506, 1426), (1506, 1529), (1506, 1634), (1506, 1635), (1506, 1656), (1506, 1743), (1506, 2062), (1506, 2076), (1506, 2141), (1506, 2143), (1506, 2287), (1506, 2799), (1506, 3079), (1506, 3145), (1507, 86), (1507, 103), (1507, 477), (1507, 548), (1507, 876), (1507, 886), (1507, 924), (1507, 940), (1507, 949), (1507, 1426), (1507, 1529), (1507, 1634), (1507, 1635), (1507, 1656), (1507, 1743), (1507, 2062), (1507, 2076), (1507, 2141), (1507, 2143), (1507, 2287), (1507, 2799), (1507, 3079), (1507, 3145), (1508, 86), (1508, 103), (1508, 477), (1508, 548), (1508, 876), (1508, 886), (1508, 924), (1508, 940), (1508, 949), (1508, 1426), (1508, 1529), (1508, 1634), (1508, 1635), (1508, 1656), (1508, 1743), (1508, 2062), (1508, 2076)]
noncomputable def edges21 : List (Nat × Nat) := [(1508, 2141), (1508, 2143), (1508, 2287), (1508, 2799), (1508, 3079), (1508, 3145), (1509, 86), (1509, 103), (1509, 477), (1509, 548), (1509, 876), (1509, 886), (1509, 924), (1509, 940), (1509, 949), (1509, 1426), (1509, 1529), (1509, 1634), (1509, 1635), (1509, 1656), (1509, 1743), (1509, 2062), (1509, 2076), (1509, 2141), (1509, 2143), (1509, 2287), (1509, 2799), (1509, 3079), (1509, 3145), (1510, 86), (1510, 103), (1510, 477), (1510, 548), (1510, 876), (1510, 886), (1510, 924), (1510, 940), (1510, 949), (1510, 1426), (1510, 1529), (1510, 1634), (1510, 1635), (1510, 1656), (1510, 1743), (1510, 2062), (1510, 2076), (1510, 2141), (1510, 2143), (1510, 2287), (1510, 2799), (1510, 3079), (1510, 3145), (1511, 86), (1511, 103), (1511, 477), (1511, 548), (1511, 876), (1511, 886), (1511, 924), (1511, 940), (1511, 949), (1511, 1426), (1511, 1529), (1511, 1634), (1511, 1635), (1511, 1656), (1511, 1743), (1511, 2062), (1511, 2076), (1511, 2141), (1511, 2143), (1511, 2287), (1511, 2799), (1511, 3079), (1511, 3145), (1512, 86), (1512, 103), (1512, 477), (1512, 548), (1512, 876), (1512, 886), (1512, 924), (1512, 940), (1512, 949), (1512, 1426), (1512, 1529), (1512, 1634), (1512, 1635), (1512, 1656), (1512, 1743), (1512, 2062), (1512, 2076), (1512, 2141), (1512, 2143), (1512, 2287), (1512, 2799), (1512, 3079), (1512, 3145), (1513, 86), (1513, 103), (1513, 477), (1513, 548), (1513, 876), (1513, 886), (1513, 924), (1513, 940), (1513, 949), (1513, 1426), (1513, 1529), (1513, 1634), (1513, 1635), (1513, 1656), (1513, 1743), (1513, 2062), (1513, 2076), (1513, 2141), (1513, 2143), (1513, 2287), (1513, 2799), (1513, 3079), (1513, 3145), (1514, 86), (1514, 103), (1514, 477), (1514, 548), (1514, 876), (1514, 886), (1514, 924), (1514, 940), (1514, 949), (1514, 1426), (1514, 1529), (1514, 1634), (1514, 1635), (1514, 1656), (1514, 1743), (1514, 2062), (1514, 2076), (1514, 2141), (1514, 2143), (1514, 2287), (1514, 2799), (1514, 3079), (1514, 3145), (1515, 86), (1515, 103), (1515, 477), (1515, 548), (1515, 876), (1515, 886), (1515, 924), (1515, 940), (1515, 949), (1515, 1426), (1515, 1529), (1515, 1634), (1515, 1635), (1515, 1656), (1515, 1743), (1515, 2062), (1515, 2076), (1515, 2141), (1515, 2143), (1515, 2287), (1515, 2799), (1515, 3079), (1515, 3145), (1516, 86), (1516, 103), (1516, 477), (1516, 548), (1516, 876), (1516, 886), (1516, 924), (1516, 940), (1516, 949), (1516, 1426), (1516, 1529), (1516, 1634), (1516, 1635), (1516, 1656), (1516, 1743), (1516, 2062), (1516, 2076), (1516, 2141), (1516, 2143), (1516, 2287), (1516, 2799), (1516, 3079), (1516, 3145), (1517, 86), (1517, 103), (1517, 477), (1517, 548), (1517, 876), (1517, 886), (1517, 924), (1517, 940), (1517, 949), (1517, 1426), (1517, 1529), (1517, 1634), (1517, 1635), (1517, 1656), (1517, 1743), (1517, 2062), (1517, 2076), (1517, 2141), (1517, 2143), (1517, 2287), (1517, 2799), (1517, 3079), (1517, 3145), (1518, 86), (1518, 103), (1518, 477), (1518, 548), (1518, 876), (1518, 886), (1518, 924), (1518, 940), (1518, 949), (1518, 1426), (1518, 1529), (1518, 1634), (1518, 1635), (1518, 1656), (1518, 1743), (1518, 2062), (1518, 2076), (1518, 2141), (1518, 2143), (1518, 2287), (1518, 2799), (1518, 3079), (1518, 3145), (1519, 86), (1519, 103), (1519, 477), (1519, 548), (1519, 876), (1519, 886), (1519, 924), (1519, 940), (1519, 949), (1519, 1426), (1519, 1529), (1519, 1634), (1519, 1635), (1519, 1656)]
noncomputable def edges22 : List (Nat × Nat) := [(1519, 1743), (1519, 2062), (1519, 2076), (1519, 2141), (1519, 2143), (1519, 2287), (1519, 2799), (1519, 3079), (1519, 3145), (1520, 86), (1520, 103), (1520, 477), (1520, 548), (1520, 876), (1520, 886), (1520, 924), (1520, 940), (1520, 949), (1520, 1426), (1520, 1529), (1520, 1634), (1520, 1635), (1520, 1656), (1520, 1743), (1520, 2062), (1520, 2076), (1520, 2141), (1520, 2143), (1520, 2287), (1520, 2799), (1520, 3079), (1520, 3145), (1521, 86), (1521, 103), (1521, 477), (1521, 548), (1521, 876), (1521, 886), (1521, 924), (1521, 940), (1521, 949), (1521, 1426), (1521, 1529), (1521, 1634), (1521, 1635), (1521, 1656), (1521, 1743), (1521, 2062), (1521, 2076), (1521, 2141), (1521, 2143), (1521, 2287), (1521, 2799), (1521, 3079), (1521, 3145), (1522, 86), (1522, 103), (1522, 477), (1522, 548), (1522, 876), (1522, 886), (1522, 924), (1522, 940), (1522, 949), (1522, 1426), (1522, 1529), (1522, 1634), (1522, 1635), (1522, 1656), (1522, 1743), (1522, 2062), (1522, 2076), (1522, 2141), (1522, 2143), (1522, 2287), (1522, 2799), (1522, 3079), (1522, 3145), (1523, 86), (1523, 103), (1523, 477), (1523, 548), (1523, 876), (1523, 886), (1523, 924), (1523, 940), (1523, 949), (1523, 1426), (1523, 1529), (1523, 1634), (1523, 1635), (1523, 1656), (1523, 1743), (1523, 2062), (1523, 2076), (1523, 2141), (1523, 2143), (1523, 2287), (1523, 2799), (1523, 3079), (1523, 3145), (1524, 86), (1524, 103), (1524, 477), (1524, 548), (1524, 876), (1524, 886), (1524, 924), (1524, 940), (1524, 949), (1524, 1426), (1524, 1529), (1524, 1634), (1524, 1635), (1524, 1656), (1524, 1743), (1524, 2062), (1524, 2076), (1524, 2141), (1524, 2143), (1524, 2287), (1524, 2799), (1524, 3079), (1524, 3145), (1525, 86), (1525, 103), (1525, 477), (1525, 548), (1525, 876), (1525, 886), (1525, 924), (1525, 940), (1525, 949), (1525, 1426), (1525, 1529), (1525, 1634), (1525, 1635), (1525, 1656), (1525, 1743), (1525, 2062), (1525, 2076), (1525, 2141), (1525, 2143), (1525, 2287), (1525, 2799), (1525, 3079), (1525, 3145), (1526, 86), (1526, 103), (1526, 477), (1526, 548), (1526, 876), (1526, 886), (1526, 924), (1526, 940), (1526, 949), (1526, 1426), (1526, 1529), (1526, 1634), (1526, 1635), (1526, 1656), (1526, 1743), (1526, 2062), (1526, 2076), (1526, 2141), (1526, 2143), (1526, 2287), (1526, 2799), (1526, 3079), (1526, 3145), (1527, 86), (1527, 103), (1527, 477), (1527, 548), (1527, 876), (1527, 886), (1527, 924), (1527, 940), (1527, 949), (1527, 1426), (1527, 1529), (1527, 1634), (1527, 1635), (1527, 1656), (1527, 1743), (1527, 2062), (1527, 2076), (1527, 2141), (1527, 2143), (1527, 2287), (1527, 2799), (1527, 3079), (1527, 3145), (1528, 86), (1528, 492), (1528, 876), (1528, 886), (1528, 924), (1528, 940), (1528, 949), (1528, 1483), (1528, 1529), (1528, 1634), (1528, 1635), (1528, 1656), (1528, 1857), (1528, 2141), (1528, 2143), (1528, 2287), (1528, 2799), (1528, 3145), (1529, 98), (1529, 924), (1529, 1636), (1529, 1656), (1529, 2143), (1529, 3145), (1530, 86), (1530, 96), (1530, 492), (1530, 876), (1530, 886), (1530, 924), (1530, 940), (1530, 949), (1530, 1059), (1530, 1066), (1530, 1483), (1530, 1635), (1530, 1656), (1530, 1857), (1530, 2141), (1530, 2143), (1530, 2287), (1530, 2799), (1530, 3145), (1531, 86), (1531, 492), (1531, 876), (1531, 886), (1531, 924), (1531, 940), (1531, 949), (1531, 1059), (1531, 1064), (1531, 1483), (1531, 1635), (1531, 1656), (1531, 1857), (1531, 2141)]
noncomputable def edges23 : List (Nat × Nat) := [(1531, 2143), (1531, 2287), (1531, 2799), (1531, 3145), (1532, 86), (1532, 96), (1532, 103), (1532, 477), (1532, 546), (1532, 549), (1532, 876), (1532, 886), (1532, 924), (1532, 934), (1532, 940), (1532, 949), (1532, 1059), (1532, 1426), (1532, 1635), (1532, 1656), (1532, 1743), (1532, 2062), (1532, 2076), (1532, 2141), (1532, 2143), (1532, 2214), (1532, 2287), (1532, 2583), (1532, 2799), (1532, 3079), (1532, 3132), (1532, 3145), (1533, 86), (1533, 96), (1533, 103), (1533, 477), (1533, 546), (1533, 549), (1533, 876), (1533, 886), (1533, 924), (1533, 934), (1533, 940), (1533, 949), (1533, 1059), (1533, 1426), (1533, 1635), (1533, 1656), (1533, 1743), (1533, 2062), (1533, 2076), (1533, 2141), (1533, 2143), (1533, 2214), (1533, 2287), (1533, 2583), (1533, 2799), (1533, 3079), (1533, 3132), (1533, 3145), (1534, 86), (1534, 96), (1534, 103), (1534, 477), (1534, 546), (1534, 549), (1534, 876), (1534, 886), (1534, 924), (1534, 934), (1534, 940), (1534, 949), (1534, 1059), (1534, 1426), (1534, 1635), (1534, 1656), (1534, 1743), (1534, 2062), (1534, 2076), (1534, 2141), (1534, 2143), (1534, 2214), (1534, 2287), (1534, 2583), (1534, 2799), (1534, 3079), (1534, 3132), (1534, 3145), (1535, 86), (1535, 96), (1535, 103), (1535, 477), (1535, 546), (1535, 549), (1535, 876), (1535, 886), (1535, 924), (1535, 934), (1535, 940), (1535, 949), (1535, 1059), (1535, 1426), (1535, 1635), (1535, 1656), (1535, 1743), (1535, 2062), (1535, 2076), (1535, 2141), (1535, 2143), (1535, 2214), (1535, 2287), (1535, 2583), (1535, 2799), (1535, 3079), (1535, 3132), (1535, 3145), (1536, 86), (1536, 96), (1536, 103), (1536, 477), (1536, 546), (1536, 549), (1536, 876), (1536, 886), (1536, 924), (1536, 934), (1536, 940), (1536, 949), (1536, 1059), (1536, 1426), (1536, 1635), (1536, 1656), (1536, 1743), (1536, 2062), (1536, 2076), (1536, 2141), (1536, 2143), (1536, 2214), (1536, 2287), (1536, 2583), (1536, 2799), (1536, 3079), (1536, 3132), (1536, 3145), (1537, 86), (1537, 96), (1537, 103), (1537, 477), (1537, 546), (1537, 549), (1537, 876), (1537, 886), (1537, 924), (1537, 934), (1537, 940), (1537, 949), (1537, 1059), (1537, 1426), (1537, 1635), (1537, 1656), (1537, 1743), (1537, 2062), (1537, 2076), (1537, 2141), (1537, 2143), (1537, 2214), (1537, 2287), (1537, 2583), (1537, 2799), (1537, 3079), (1537, 3132), (1537, 3145), (1538, 86), (1538, 96), (1538, 103), (1538, 477), (1538, 546), (1538, 549), (1538, 876), (1538, 886), (1538, 924), (1538, 934), (1538, 940), (1538, 949), (1538, 1059), (1538, 1426), (1538, 1635), (1538, 1656), (1538, 1743), (1538, 2062), (1538, 2076), (1538, 2141), (1538, 2143), (1538, 2214), (1538, 2287), (1538, 2583), (1538, 2799), (1538, 3079), (1538, 3132), (1538, 3145), (1539, 86), (1539, 96), (1539, 103), (1539, 477), (1539, 546), (1539, 549), (1539, 876), (1539, 886), (1539, 924), (1539, 934), (1539, 940), (1539, 949), (1539, 1059), (1539, 1426), (1539, 1635), (1539, 1656), (1539, 1743), (1539, 2062), (1539, 2076), (1539, 2141), (1539, 2143), (1539, 2214), (1539, 2287), (1539, 2583), (1539, 2799), (1539, 3079), (1539, 3132), (1539, 3145), (1540, 86), (1540, 96), (1540, 103), (1540, 477), (1540, 546), (1540, 549), (1540, 876), (1540, 886), (1540, 924), (1540, 934), (1540, 940), (1540, 949), (1540, 1059), (1540, 1426), (1540, 1635), (1540, 1656), (1540, 1743), (1540, 2062), (1540, 2076), (1540, 2141), (1540, 2143), (1540, 2214)]
noncomputable def edges24 : List (Nat × Nat) := [(1540, 2287), (1540, 2583), (1540, 2799), (1540, 3079), (1540, 3132), (1540, 3145), (1541, 86), (1541, 96), (1541, 103), (1541, 477), (1541, 546), (1541, 549), (1541, 876), (1541, 886), (1541, 924), (1541, 934), (1541, 940), (1541, 949), (1541, 1059), (1541, 1426), (1541, 1635), (1541, 1656), (1541, 1743), (1541, 2062), (1541, 2076), (1541, 2141), (1541, 2143), (1541, 2214), (1541, 2287), (1541, 2583), (1541, 2799), (1541, 3079), (1541, 3132), (1541, 3145), (1542, 86), (1542, 96), (1542, 103), (1542, 477), (1542, 546), (1542, 549), (1542, 876), (1542, 886), (1542, 924), (1542, 934), (1542, 940), (1542, 949), (1542, 1059), (1542, 1426), (1542, 1635), (1542, 1656), (1542, 1743), (1542, 2062), (1542, 2076), (1542, 2141), (1542, 2143), (1542, 2214), (1542, 2287), (1542, 2583), (1542, 2799), (1542, 3079), (1542, 3132), (1542, 3145), (1543, 86), (1543, 96), (1543, 103), (1543, 477), (1543, 546), (1543, 549), (1543, 876), (1543, 886), (1543, 924), (1543, 934), (1543, 940), (1543, 949), (1543, 1059), (1543, 1426), (1543, 1635), (1543, 1656), (1543, 1743), (1543, 2062), (1543, 2076), (1543, 2141), (1543, 2143), (1543, 2214), (1543, 2287), (1543, 2583), (1543, 2799), (1543, 3079), (1543, 3132), (1543, 3145), (1544, 86), (1544, 96), (1544, 103), (1544, 477), (1544, 546), (1544, 549), (1544, 876), (1544, 886), (1544, 924), (1544, 934), (1544, 940), (1544, 949), (1544, 1059), (1544, 1426), (1544, 1635), (1544, 1656), (1544, 1743), (1544, 2062), (1544, 2076), (1544, 2141), (1544, 2143), (1544, 2214), (1544, 2287), (1544, 2583), (1544, 2799), (1544, 3079), (1544, 3132), (1544, 3145), (1545, 86), (1545, 96), (1545, 103), (1545, 477), (1545, 546), (1545, 549), (1545, 876), (1545, 886), (1545, 924), (1545, 934), (1545, 940), (1545, 949), (1545, 1059), (1545, 1426), (1545, 1635), (1545, 1656), (1545, 1743), (1545, 2062), (1545, 2076), (1545, 2141), (1545, 2143), (1545, 2214), (1545, 2287), (1545, 2583), (1545, 2799), (1545, 3079), (1545, 3132), (1545, 3145), (1546, 86), (1546, 96), (1546, 103), (1546, 477), (1546, 546), (1546, 549), (1546, 876), (1546, 886), (1546, 924), (1546, 934), (1546, 940), (1546, 949), (1546, 1059), (1546, 1426), (1546, 1635), (1546, 1656), (1546, 1743), (1546, 2062), (1546, 2076), (1546, 2141), (1546, 2143), (1546, 2214), (1546, 2287), (1546, 2583), (1546, 2799), (1546, 3079), (1546, 3132), (1546, 3145), (1547, 86), (1547, 96), (1547, 103), (1547, 477), (1547, 546), (1547, 549), (1547, 876), (1547, 886), (1547, 924), (1547, 934), (1547, 940), (1547, 949), (1547, 1059), (1547, 1426), (1547, 1635), (1547, 1656), (1547, 1743), (1547, 2062), (1547, 2076), (1547, 2141), (1547, 2143), (1547, 2214), (1547, 2287), (1547, 2583), (1547, 2799), (1547, 3079), (1547, 3132), (1547, 3145), (1548, 86), (1548, 96), (1548, 103), (1548, 477), (1548, 546), (1548, 549), (1548, 876), (1548, 886), (1548, 924), (1548, 934), (1548, 940), (1548, 949), (1548, 1059), (1548, 1426), (1548, 1635), (1548, 1656), (1548, 1743), (1548, 2062), (1548, 2076), (1548, 2141), (1548, 2143), (1548, 2214), (1548, 2287), (1548, 2583), (1548, 2799), (1548, 3079), (1548, 3132), (1548, 3145), (1549, 86), (1549, 96), (1549, 103), (1549, 477), (1549, 546), (1549, 549), (1549, 876), (1549, 886), (1549, 924), (1549, 934), (1549, 940), (1549, 949), (1549, 1059), (1549, 1426), (1549, 1635), (1549, 1656), (1549, 1743), (1549, 2062), (1549, 2076), (1549, 2141)]
noncomputable def edges25 : List (Nat × Nat) := [(1549, 2143), (1549, 2214), (1549, 2287), (1549, 2583), (1549, 2799), (1549, 3079), (1549, 3132), (1549, 3145), (1550, 86), (1550, 96), (1550, 103), (1550, 477), (1550, 546), (1550, 549), (1550, 876), (1550, 886), (1550, 924), (1550, 934), (1550, 940), (1550, 949), (1550, 1059), (1550, 1426), (1550, 1635), (1550, 1656), (1550, 1743), (1550, 2062), (1550, 2076), (1550, 2141), (1550, 2143), (1550, 2214), (1550, 2287), (1550, 2583), (1550, 2799), (1550, 3079), (1550, 3132), (1550, 3145), (1551, 86), (1551, 96), (1551, 103), (1551, 477), (1551, 546), (1551, 549), (1551, 876), (1551, 886), (1551, 924), (1551, 934), (1551, 940), (1551, 949), (1551, 1059), (1551, 1426), (1551, 1635), (1551, 1656), (1551, 1743), (1551, 2062), (1551, 2076), (1551, 2141), (1551, 2143), (1551, 2214), (1551, 2287), (1551, 2583), (1551, 2799), (1551, 3079), (1551, 3132), (1551, 3145), (1552, 86), (1552, 96), (1552, 103), (1552, 477), (1552, 546), (1552, 549), (1552, 876), (1552, 886), (1552, 924), (1552, 934), (1552, 940), (1552, 949), (1552, 1059), (1552, 1426), (1552, 1635), (1552, 1656), (1552, 1743), (1552, 2062), (1552, 2076), (1552, 2141), (1552, 2143), (1552, 2214), (1552, 2287), (1552, 2583), (1552, 2799), (1552, 3079), (1552, 3132), (1552, 3145), (1553, 86), (1553, 96), (1553, 103), (1553, 477), (1553, 546), (1553, 549), (1553, 876), (1553, 886), (1553, 924), (1553, 934), (1553, 940), (1553, 949), (1553, 1059), (1553, 1426), (1553, 1635), (1553, 1656), (1553, 1743), (1553, 2062), (1553, 2076), (1553, 2141), (1553, 2143), (1553, 2214), (1553, 2287), (1553, 2583), (1553, 2799), (1553, 3079), (1553, 3132), (1553, 3145), (1554, 86), (1554, 96), (1554, 103), (1554, 477), (1554, 546), (1554, 549), (1554, 876), (1554, 886), (1554, 924), (1554, 934), (1554, 940), (1554, 949), (1554, 1059), (1554, 1426), (1554, 1635), (1554, 1656), (1554, 1743), (1554, 2062), (1554, 2076), (1554, 2141), (1554, 2143), (1554, 2214), (1554, 2287), (1554, 2583), (1554, 2799), (1554, 3079), (1554, 3132), (1554, 3145), (1555, 86), (1555, 96), (1555, 103), (1555, 477), (1555, 546), (1555, 549), (1555, 876), (1555, 886), (1555, 924), (1555, 934), (1555, 940), (1555, 949), (1555, 1059), (1555, 1426), (1555, 1635), (1555, 1656), (1555, 1743), (1555, 2062), (1555, 2076), (1555, 2141), (1555, 2143), (1555, 2214), (1555, 2287), (1555, 2583), (1555, 2799), (1555, 3079), (1555, 3132), (1555, 3145), (1556, 86), (1556, 96), (1556, 103), (1556, 477), (1556, 546), (1556, 549), (1556, 876), (1556, 886), (1556, 924), (1556, 934), (1556, 940), (1556, 949), (1556, 1059), (1556, 1426), (1556, 1635), (1556, 1656), (1556, 1743), (1556, 2062), (1556, 2076), (1556, 2141), (1556, 2143), (1556, 2214), (1556, 2287), (1556, 2583), (1556, 2799), (1556, 3079), (1556, 3132), (1556, 3145), (1557, 86), (1557, 96), (1557, 103), (1557, 477), (1557, 546), (1557, 549), (1557, 876), (1557, 886), (1557, 924), (1557, 934), (1557, 940), (1557, 949), (1557, 1059), (1557, 1426), (1557, 1635), (1557, 1656), (1557, 1743), (1557, 2062), (1557, 2076), (1557, 2141), (1557, 2143), (1557, 2214), (1557, 2287), (1557, 2583), (1557, 2799), (1557, 3079), (1557, 3132), (1557, 3145), (1558, 86), (1558, 96), (1558, 135), (1558, 876), (1558, 886), (1558, 924), (1558, 940), (1558, 949), (1558, 1635), (1558, 1857), (1558, 2141), (1558, 2143), (1558, 2287), (1558, 2799), (1558, 3145), (1559, 86), (1559, 96), (1559, 135)]
noncomputable def edges26 : List (Nat × Nat) := [(1559, 477), (1559, 550), (1559, 876), (1559, 886), (1559, 924), (1559, 940), (1559, 949), (1559, 1426), (1559, 1513), (1559, 1635), (1559, 1743), (1559, 2062), (1559, 2076), (1559, 2141), (1559, 2143), (1559, 2287), (1559, 2799), (1559, 3079), (1559, 3145), (1560, 86), (1560, 96), (1560, 135), (1560, 477), (1560, 550), (1560, 876), (1560, 886), (1560, 924), (1560, 940), (1560, 949), (1560, 1426), (1560, 1513), (1560, 1635), (1560, 1743), (1560, 2062), (1560, 2076), (1560, 2141), (1560, 2143), (1560, 2287), (1560, 2799), (1560, 3079), (1560, 3145), (1561, 86), (1561, 96), (1561, 135), (1561, 477), (1561, 550), (1561, 876), (1561, 886), (1561, 924), (1561, 940), (1561, 949), (1561, 1426), (1561, 1513), (1561, 1635), (1561, 1743), (1561, 2062), (1561, 2076), (1561, 2141), (1561, 2143), (1561, 2287), (1561, 2799), (1561, 3079), (1561, 3145), (1562, 86), (1562, 96), (1562, 135), (1562, 477), (1562, 550), (1562, 876), (1562, 886), (1562, 924), (1562, 940), (1562, 949), (1562, 1426), (1562, 1513), (1562, 1635), (1562, 1743), (1562, 2062), (1562, 2076), (1562, 2141), (1562, 2143), (1562, 2287), (1562, 2799), (1562, 3079), (1562, 3145), (1563, 86), (1563, 96), (1563, 135), (1563, 477), (1563, 550), (1563, 876), (1563, 886), (1563, 924), (1563, 940), (1563, 949), (1563, 1426), (1563, 1513), (1563, 1635), (1563, 1743), (1563, 2062), (1563, 2076), (1563, 2141), (1563, 2143), (1563, 2287), (1563, 2799), (1563, 3079), (1563, 3145), (1564, 86), (1564, 96), (1564, 135), (1564, 477), (1564, 550), (1564, 876), (1564, 886), (1564, 924), (1564, 940), (1564, 949), (1564, 1426), (1564, 1513), (1564, 1635), (1564, 1743), (1564, 2062), (1564, 2076), (1564, 2141), (1564, 2143), (1564, 2287), (1564, 2799), (1564, 3079), (1564, 3145), (1565, 86), (1565, 96), (1565, 135), (1565, 477), (1565, 550), (1565, 876), (1565, 886), (1565, 924), (1565, 940), (1565, 949), (1565, 1426), (1565, 1513), (1565, 1635), (1565, 1743), (1565, 2062), (1565, 2076), (1565, 2141), (1565, 2143), (1565, 2287), (1565, 2799), (1565, 3079), (1565, 3145), (1566, 86), (1566, 96), (1566, 135), (1566, 477), (1566, 550), (1566, 876), (1566, 886), (1566, 924), (1566, 940), (1566, 949), (1566, 1426), (1566, 1513), (1566, 1635), (1566, 1743), (1566, 2062), (1566, 2076), (1566, 2141), (1566, 2143), (1566, 2287), (1566, 2799), (1566, 3079), (1566, 3145), (1567, 86), (1567, 96), (1567, 135), (1567, 477), (1567, 550), (1567, 876), (1567, 886), (1567, 924), (1567, 940), (1567, 949), (1567, 1426), (1567, 1513), (1567, 1635), (1567, 1743), (1567, 2062), (1567, 2076), (1567, 2141), (1567, 2143), (1567, 2287), (1567, 2799), (1567, 3079), (1567, 3145), (1568, 86), (1568, 96), (1568, 135), (1568, 477), (1568, 550), (1568, 876), (1568, 886), (1568, 924), (1568, 940), (1568, 949), (1568, 1426), (1568, 1513), (1568, 1635), (1568, 1743), (1568, 2062), (1568, 2076), (1568, 2141), (1568, 2143), (1568, 2287), (1568, 2799), (1568, 3079), (1568, 3145), (1569, 86), (1569, 96), (1569, 135), (1569, 477), (1569, 550), (1569, 876), (1569, 886), (1569, 924), (1569, 940), (1569, 949), (1569, 1426), (1569, 1513), (1569, 1635), (1569, 1743), (1569, 2062), (1569, 2076), (1569, 2141), (1569, 2143), (1569, 2287), (1569, 2799), (1569, 3079), (1569, 3145), (1570, 86), (1570, 96), (1570, 135), (1570, 477), (1570, 550), (1570, 876), (1570, 886), (1570, 924), (1570, 940), (1570, 949), (1570, 1426)]
noncomputable def edges27 : List (Nat × Nat) := [(1570, 1513), (1570, 1635), (1570, 1743), (1570, 2062), (1570, 2076), (1570, 2141), (1570, 2143), (1570, 2287), (1570, 2799), (1570, 3079), (1570, 3145), (1571, 86), (1571, 96), (1571, 135), (1571, 477), (1571, 550), (1571, 876), (1571, 886), (1571, 924), (1571, 940), (1571, 949), (1571, 1426), (1571, 1513), (1571, 1635), (1571, 1743), (1571, 2062), (1571, 2076), (1571, 2141), (1571, 2143), (1571, 2287), (1571, 2799), (1571, 3079), (1571, 3145), (1572, 86), (1572, 96), (1572, 135), (1572, 477), (1572, 550), (1572, 876), (1572, 886), (1572, 924), (1572, 940), (1572, 949), (1572, 1426), (1572, 1513), (1572, 1635), (1572, 1743), (1572, 2062), (1572, 2076), (1572, 2141), (1572, 2143), (1572, 2287), (1572, 2799), (1572, 3079), (1572, 3145), (1573, 86), (1573, 96), (1573, 135), (1573, 477), (1573, 550), (1573, 876), (1573, 886), (1573, 924), (1573, 940), (1573, 949), (1573, 1426), (1573, 1513), (1573, 1635), (1573, 1743), (1573, 2062), (1573, 2076), (1573, 2141), (1573, 2143), (1573, 2287), (1573, 2799), (1573, 3079), (1573, 3145), (1574, 135), (1574, 142), (1574, 231), (1574, 699), (1574, 949), (1574, 1406), (1574, 1423), (1574, 1701), (1574, 1860), (1574, 2369), (1574, 2755), (1574, 2756), (1574, 2799), (1574, 3145), (1575, 1575), (1575, 2173), (1575, 3145), (1576, 1576), (1576, 2173), (1576, 3145), (1577, 3143), (1577, 3144), (1577, 3145), (1578, 3143), (1578, 3144), (1578, 3145), (1579, 3143), (1579, 3144), (1579, 3145), (1580, 3143), (1580, 3144), (1580, 3145), (1581, 1577), (1581, 3145), (1582, 3143), (1582, 3144), (1582, 3145), (1583, 3143), (1583, 3144), (1583, 3145), (1584, 3143), (1584, 3144), (1584, 3145), (1585, 3143), (1585, 3144), (1585, 3145), (1586, 1577), (1586, 3145), (1587, 3143), (1587, 3144), (1587, 3145), (1588, 3143), (1588, 3144), (1588, 3145), (1589, 3143), (1589, 3144), (1589, 3145), (1590, 3143), (1590, 3144), (1590, 3145), (1591, 3143), (1591, 3144), (1591, 3145), (1592, 3143), (1592, 3144), (1592, 3145), (1593, 1593), (1593, 2182), (1593, 3145), (1594, 592), (1594, 3145), (1595, 158), (1595, 1595), (1595, 1739), (1595, 2154), (1595, 2182), (1595, 3145), (1596, 3143), (1596, 3144), (1596, 3145), (1597, 3143), (1597, 3144), (1597, 3145), (1598, 3143), (1598, 3144), (1598, 3145), (1599, 3143), (1599, 3144), (1599, 3145), (1600, 1600), (1600, 2173), (1600, 3145), (1601, 1601), (1601, 2173), (1601, 3145), (1602, 649), (1602, 3145), (1603, 1842), (1603, 3145), (1604, 1849), (1604, 3145), (1605, 2187), (1605, 3145), (1606, 2327), (1606, 2856), (1606, 3145), (1607, 3022), (1607, 3145), (1608, 3023), (1608, 3145), (1609, 3145), (1610, 3145), (1611, 3145), (1612, 3145), (1613, 3145), (1614, 1762), (1614, 1767), (1614, 2588), (1614, 3145), (1615, 1614), (1615, 2799), (1615, 3145), (1616, 89), (1616, 842), (1616, 1617), (1616, 1618), (1616, 1619), (1616, 1620), (1616, 2109), (1616, 2217), (1616, 2376), (1616, 2789), (1616, 2799), (1616, 3145), (1617, 298), (1617, 300), (1617, 949), (1617, 2217), (1617, 2300), (1617, 2378), (1617, 2682), (1617, 2799), (1617, 3145), (1618, 96), (1618, 2376), (1618, 2799), (1618, 3145), (1619, 769), (1619, 772), (1619, 775), (1619, 1048), (1619, 1421), (1619, 2632), (1619, 3031), (1619, 3074), (1619, 3145), (1620, 147), (1620, 148), (1620, 873), (1620, 874), (1620, 1421), (1620, 1467), (1620, 2376), (1620, 2799), (1620, 3031), (1620, 3145), (1621, 3145), (1622, 3145), (1623, 949), (1623, 3145), (1624, 949), (1624, 3145), (1625, 1627)]
noncomputable def edges28 : List (Nat × Nat) := [(1625, 3145), (1626, 1628), (1626, 3145), (1627, 3145), (1628, 3145), (1629, 3145), (1630, 3145), (1631, 3145), (1632, 923), (1632, 3145), (1633, 411), (1633, 413), (1633, 478), (1633, 834), (1633, 1483), (1633, 1642), (1633, 1686), (1633, 1743), (1633, 1754), (1633, 2609), (1633, 2799), (1633, 3145), (1634, 3145), (1635, 1638), (1635, 1743), (1635, 1765), (1635, 2799), (1635, 3145), (1636, 547), (1636, 923), (1636, 1743), (1636, 2588), (1636, 2799), (1636, 3145), (1637, 1639), (1637, 2628), (1637, 2799), (1637, 3145), (1638, 411), (1638, 413), (1638, 834), (1638, 1641), (1638, 1648), (1638, 2580), (1638, 2799), (1638, 3145), (1639, 411), (1639, 413), (1639, 834), (1639, 1648), (1639, 2580), (1639, 3145), (1640, 3143), (1640, 3144), (1640, 3145), (1641, 90), (1641, 91), (1641, 478), (1641, 1642), (1641, 1643), (1641, 1644), (1641, 1646), (1641, 1647), (1641, 1765), (1641, 1769), (1641, 2580), (1641, 2608), (1641, 2609), (1641, 2687), (1641, 2689), (1641, 2799), (1641, 2858), (1641, 2901), (1641, 2903), (1641, 2937), (1641, 2957), (1641, 3145), (1642, 3145), (1643, 3145), (1644, 1686), (1644, 1754), (1644, 2580), (1644, 3145), (1645, 1423), (1645, 3145), (1646, 3145), (1647, 3145), (1648, 1642), (1648, 1646), (1648, 2609), (1648, 2687), (1648, 2799), (1648, 3145), (1649, 196), (1649, 290), (1649, 949), (1649, 1421), (1649, 1452), (1649, 1460), (1649, 1732), (1649, 1735), (1649, 1830), (1649, 3031), (1649, 3145), (1650, 3145), (1651, 3145), (1652, 170), (1652, 570), (1652, 573), (1652, 574), (1652, 575), (1652, 578), (1652, 579), (1652, 581), (1652, 583), (1652, 585), (1652, 589), (1652, 707), (1652, 1467), (1652, 1656), (1652, 1747), (1652, 3145), (1653, 240), (1653, 241), (1653, 1421), (1653, 1450), (1653, 1454), (1653, 1654), (1653, 3031), (1653, 3143), (1653, 3145), (1654, 3145), (1655, 248), (1655, 1656), (1655, 3145), (1656, 3143), (1656, 3144), (1656, 3145), (1657, 949), (1657, 1031), (1657, 1656), (1657, 3145), (1658, 3143), (1658, 3144), (1658, 3145), (1659, 3145), (1660, 3145), (1661, 3145), (1662, 3145), (1663, 3145), (1664, 3145), (1665, 3143), (1665, 3144), (1665, 3145), (1666, 3143), (1666, 3144), (1666, 3145), (1667, 3145), (1668, 1666), (1668, 3145), (1669, 1666), (1669, 3145), (1670, 3143), (1670, 3144), (1670, 3145), (1671, 1715), (1671, 2151), (1671, 3145), (1672, 3143), (1672, 3144), (1672, 3145), (1673, 1715), (1673, 2152), (1673, 3145), (1674, 1666), (1674, 3145), (1675, 96), (1675, 1715), (1675, 2151), (1675, 2152), (1675, 3145), (1676, 1666), (1676, 3145), (1677, 3143), (1677, 3144), (1677, 3145), (1678, 1917), (1678, 1974), (1678, 3145), (1679, 3143), (1679, 3145), (1680, 3145), (1681, 2157), (1681, 2439), (1681, 3145), (1682, 2175), (1682, 2443), (1682, 3145), (1683, 358), (1683, 620), (1683, 949), (1683, 1052), (1683, 1421), (1683, 1448), (1683, 1470), (1683, 1651), (1683, 2288), (1683, 2502), (1683, 2632), (1683, 2799), (1683, 3031), (1683, 3037), (1683, 3074), (1683, 3091), (1683, 3145), (1684, 168), (1684, 1418), (1684, 3145), (1685, 168), (1685, 1420), (1685, 3145), (1686, 1687), (1686, 2789), (1686, 3145), (1687, 1372), (1687, 1691), (1687, 1704), (1687, 3145), (1688, 168), (1688, 699), (1688, 949), (1688, 2144), (1688, 3145), (1689, 1691), (1689, 2578), (1689, 2799), (1689, 3145), (1690, 147), (1690, 148), (1690, 149), (1690, 2799), (1690, 3145), (1691, 135), (1691, 146), (1691, 149), (1691, 411), (1691, 413), (1691, 800), (1691, 949), (1691, 1062)]
noncomputable def edges29 : List (Nat × Nat) := [(1691, 1401), (1691, 1402), (1691, 1421), (1691, 1688), (1691, 1692), (1691, 1700), (1691, 1702), (1691, 1709), (1691, 1799), (1691, 1918), (1691, 1919), (1691, 1920), (1691, 1923), (1691, 1930), (1691, 1951), (1691, 1953), (1691, 2144), (1691, 2749), (1691, 2765), (1691, 2799), (1691, 2858), (1691, 2871), (1691, 2931), (1691, 2937), (1691, 2957), (1691, 3031), (1691, 3081), (1691, 3145), (1692, 800), (1692, 3145), (1693, 411), (1693, 413), (1693, 834), (1693, 1421), (1693, 1463), (1693, 1464), (1693, 1465), (1693, 1477), (1693, 1483), (1693, 1642), (1693, 1656), (1693, 1688), (1693, 1702), (1693, 1708), (1693, 1743), (1693, 1753), (1693, 1754), (1693, 2228), (1693, 2609), (1693, 2747), (1693, 2749), (1693, 2765), (1693, 2799), (1693, 3031), (1693, 3066), (1693, 3145), (1694, 1421), (1694, 1922), (1694, 2743), (1694, 3031), (1694, 3145), (1695, 168), (1695, 700), (1695, 949), (1695, 2144), (1695, 3145), (1696, 146), (1696, 149), (1696, 1421), (1696, 1699), (1696, 1743), (1696, 2858), (1696, 2871), (1696, 2933), (1696, 2937), (1696, 2957), (1696, 3031), (1696, 3080), (1696, 3145), (1697, 1698), (1697, 2789), (1697, 3145), (1698, 146), (1698, 149), (1698, 157), (1698, 1421), (1698, 1699), (1698, 1736), (1698, 1743), (1698, 2858), (1698, 2871), (1698, 2933), (1698, 2937), (1698, 2957), (1698, 3031), (1698, 3080), (1698, 3145), (1699, 168), (1699, 411), (1699, 413), (1699, 887), (1699, 1467), (1699, 1468), (1699, 1695), (1699, 1743), (1699, 1926), (1699, 1955), (1699, 2749), (1699, 2799), (1699, 3145), (1700, 134), (1700, 135), (1700, 168), (1700, 411), (1700, 413), (1700, 1708), (1700, 1860), (1700, 1927), (1700, 1929), (1700, 2747), (1700, 2750), (1700, 3145), (1701, 701), (1701, 1423), (1701, 1645), (1701, 1928), (1701, 2224), (1701, 3138), (1701, 3145), (1702, 887), (1702, 1059), (1702, 1468), (1702, 1690), (1702, 1707), (1702, 1743), (1702, 1753), (1702, 1802), (1702, 1826), (1702, 1831), (1702, 1955), (1702, 2143), (1702, 2578), (1702, 2579), (1702, 2580), (1702, 3145), (1703, 1643), (1703, 1647), (1703, 2608), (1703, 2684), (1703, 2685), (1703, 2686), (1703, 3145), (1704, 86), (1704, 1421), (1704, 1705), (1704, 2287), (1704, 2858), (1704, 2901), (1704, 2903), (1704, 2937), (1704, 2957), (1704, 3031), (1704, 3145), (1705, 90), (1705, 91), (1705, 147), (1705, 148), (1705, 168), (1705, 1421), (1705, 2687), (1705, 2689), (1705, 2858), (1705, 2902), (1705, 2937), (1705, 2957), (1705, 3031), (1705, 3145), (1706, 949), (1706, 1930), (1706, 2094), (1706, 3145), (1707, 147), (1707, 148), (1707, 149), (1707, 3145), (1708, 135), (1708, 147), (1708, 148), (1708, 149), (1708, 168), (1708, 699), (1708, 700), (1708, 1405), (1708, 2014), (1708, 2169), (1708, 2738), (1708, 2742), (1708, 2743), (1708, 2753), (1708, 2755), (1708, 2756), (1708, 2799), (1708, 3073), (1708, 3077), (1708, 3145), (1709, 949), (1709, 2144), (1709, 3145), (1710, 3143), (1710, 3144), (1710, 3145), (1711, 949), (1711, 954), (1711, 1714), (1711, 3145), (1712, 227), (1712, 949), (1712, 2541), (1712, 2562), (1712, 3145), (1713, 949), (1713, 2456), (1713, 2501), (1713, 2557), (1713, 3145), (1714, 1712), (1714, 1713), (1714, 3145), (1715, 3145), (1716, 1717), (1716, 2751), (1716, 2789), (1716, 3145), (1717, 284), (1717, 3145), (1718, 704), (1718, 705), (1718, 1718), (1718, 3145), (1719, 1037), (1719, 3145), (1720, 2799), (1720, 3145), (1721, 649), (1721, 3145), (1722, 1723), (1722, 3145), (1723, 135), (1723, 760), (1723, 1720)]
noncomputable def edges30 : List (Nat × Nat) := [(1723, 2799), (1723, 3145), (1724, 196), (1724, 810), (1724, 2142), (1724, 3145), (1725, 3143), (1725, 3144), (1725, 3145), (1726, 3143), (1726, 3144), (1726, 3145), (1727, 2799), (1727, 3145), (1728, 249), (1728, 1501), (1728, 1677), (1728, 3145), (1729, 249), (1729, 1501), (1729, 1677), (1729, 2320), (1729, 3145), (1730, 96), (1730, 1501), (1730, 1656), (1730, 1677), (1730, 2320), (1730, 3145), (1731, 1501), (1731, 1677), (1731, 3145), (1732, 1496), (1732, 3145), (1733, 3145), (1734, 168), (1734, 358), (1734, 1419), (1734, 3145), (1735, 231), (1735, 232), (1735, 2187), (1735, 3145), (1736, 2799), (1736, 3145), (1737, 2799), (1737, 3145), (1738, 2799), (1738, 3145), (1739, 2799), (1739, 3145), (1740, 2799), (1740, 3145), (1741, 2562), (1741, 3145), (1742, 793), (1742, 3145), (1743, 3145), (1744, 492), (1744, 794), (1744, 3145), (1745, 700), (1745, 1421), (1745, 1776), (1745, 2581), (1745, 2799), (1745, 3031), (1745, 3145), (1746, 2799), (1746, 3145), (1747, 90), (1747, 91), (1747, 949), (1747, 1907), (1747, 2687), (1747, 2689), (1747, 2799), (1747, 3145), (1748, 3145), (1749, 1060), (1749, 1743), (1749, 2579), (1749, 2799), (1749, 3145), (1750, 104), (1750, 1743), (1750, 2583), (1750, 3145), (1751, 3145), (1752, 699), (1752, 1421), (1752, 1776), (1752, 2582), (1752, 3031), (1752, 3145), (1753, 1423), (1753, 1468), (1753, 3145), (1754, 887), (1754, 1059), (1754, 1749), (1754, 1755), (1754, 2579), (1754, 2580), (1754, 3145), (1755, 887), (1755, 1756), (1755, 2584), (1755, 2799), (1755, 3145), (1756, 887), (1756, 1743), (1756, 2587), (1756, 2799), (1756, 3145), (1757, 793), (1757, 3145), (1758, 793), (1758, 3145), (1759, 1483), (1759, 3145), (1760, 3145), (1761, 887), (1761, 1756), (1761, 3145), (1762, 794), (1762, 887), (1762, 1756), (1762, 3145), (1763, 238), (1763, 492), (1763, 794), (1763, 887), (1763, 1756), (1763, 2579), (1763, 2584), (1763, 2799), (1763, 3145), (1764, 1831), (1764, 3145), (1765, 1769), (1765, 2799), (1765, 3145), (1766, 1743), (1766, 1767), (1766, 3145), (1767, 1743), (1767, 1746), (1767, 3145), (1768, 492), (1768, 3145), (1769, 794), (1769, 3145), (1770, 135), (1770, 1677), (1770, 1748), (1770, 1764), (1770, 1768), (1770, 1773), (1770, 3145), (1771, 1070), (1771, 1609), (1771, 1611), (1771, 1742), (1771, 1743), (1771, 1761), (1771, 2109), (1771, 2799), (1771, 3145), (1772, 1756), (1772, 3145), (1773, 196), (1773, 3145), (1774, 411), (1774, 413), (1774, 834), (1774, 1483), (1774, 1743), (1774, 1775), (1774, 2164), (1774, 2739), (1774, 2749), (1774, 2789), (1774, 2799), (1774, 3145), (1775, 1421), (1775, 1462), (1775, 3031), (1775, 3145), (1776, 3145), (1777, 1766), (1777, 1779), (1777, 3019), (1777, 3145), (1778, 934), (1778, 2214), (1778, 2579), (1778, 2799), (1778, 3145), (1779, 934), (1779, 1059), (1779, 1750), (1779, 1766), (1779, 2214), (1779, 2579), (1779, 2580), (1779, 2799), (1779, 3145), (1780, 86), (1780, 111), (1780, 112), (1780, 940), (1780, 949), (1780, 1842), (1780, 1849), (1780, 2143), (1780, 2287), (1780, 2799), (1780, 3067), (1780, 3068), (1780, 3145), (1781, 96), (1781, 934), (1781, 1743), (1781, 1750), (1781, 2214), (1781, 2583), (1781, 2799), (1781, 3145), (1782, 1743), (1782, 3145), (1783, 949), (1783, 3145), (1784, 3143), (1784, 3144), (1784, 3145), (1785, 949), (1785, 1469), (1785, 1683), (1785, 1786), (1785, 1869), (1785, 3145), (1786, 87), (1786, 165), (1786, 949), (1786, 1711), (1786, 1787), (1786, 2144), (1786, 2412), (1786, 2799)]
noncomputable def edges31 : List (Nat × Nat) := [(1786, 3143), (1786, 3145), (1787, 1334), (1787, 1846), (1787, 3145), (1788, 3145), (1789, 3145), (1790, 3145), (1791, 1792), (1791, 2752), (1791, 2789), (1791, 3145), (1792, 285), (1792, 3145), (1793, 3145), (1794, 3145), (1795, 239), (1795, 241), (1795, 1421), (1795, 3031), (1795, 3143), (1795, 3145), (1796, 348), (1796, 3145), (1797, 3145), (1798, 347), (1798, 2367), (1798, 3145), (1799, 1800), (1799, 3145), (1800, 3143), (1800, 3144), (1800, 3145), (1801, 306), (1801, 1804), (1801, 3145), (1802, 1803), (1802, 3145), (1803, 3145), (1804, 102), (1804, 165), (1804, 289), (1804, 300), (1804, 619), (1804, 933), (1804, 1711), (1804, 1900), (1804, 2479), (1804, 2502), (1804, 2567), (1804, 2858), (1804, 2905), (1804, 2937), (1804, 2957), (1804, 3131), (1804, 3145), (1805, 1824), (1805, 1869), (1805, 2043), (1805, 2201), (1805, 2791), (1805, 2792), (1805, 2799), (1805, 3145), (1806, 3145), (1807, 3145), (1808, 1869), (1808, 2799), (1808, 3127), (1808, 3145), (1809, 1819), (1809, 3145), (1810, 1421), (1810, 1423), (1810, 1821), (1810, 3031), (1810, 3145), (1811, 3145), (1812, 1819), (1812, 3145), (1813, 1819), (1813, 3145), (1814, 2799), (1814, 3145), (1815, 998), (1815, 1816), (1815, 1817), (1815, 2799), (1815, 3145), (1816, 1806), (1816, 3145), (1817, 2040), (1817, 2045), (1817, 2046), (1817, 2047), (1817, 2048), (1817, 3145), (1818, 3145), (1819, 1421), (1819, 1806), (1819, 1820), (1819, 1825), (1819, 2042), (1819, 2799), (1819, 3031), (1819, 3145), (1820, 1001), (1820, 3145), (1821, 2799), (1821, 3145), (1822, 3145), (1823, 2793), (1823, 3145), (1824, 774), (1824, 1825), (1824, 3145), (1825, 3145), (1826, 1831), (1826, 3145), (1827, 1421), (1827, 1656), (1827, 2737), (1827, 2799), (1827, 3031), (1827, 3145), (1828, 2014), (1828, 2799), (1828, 3145), (1829, 756), (1829, 1341), (1829, 3145), (1830, 3145), (1831, 795), (1831, 1421), (1831, 1827), (1831, 2799), (1831, 3031), (1831, 3145), (1832, 2799), (1832, 3145), (1833, 699), (1833, 1419), (1833, 1421), (1833, 2737), (1833, 2799), (1833, 3031), (1833, 3145), (1834, 3145), (1835, 949), (1835, 1423), (1835, 2175), (1835, 2799), (1835, 2813), (1835, 2820), (1835, 2825), (1835, 3145), (1836, 49), (1836, 1837), (1836, 3064), (1836, 3145), (1837, 3062), (1837, 3145), (1838, 86), (1838, 157), (1838, 160), (1838, 477), (1838, 876), (1838, 886), (1838, 924), (1838, 940), (1838, 949), (1838, 1737), (1838, 1743), (1838, 1839), (1838, 2141), (1838, 2168), (1838, 2287), (1838, 2789), (1838, 2799), (1838, 3145), (1839, 1693), (1839, 3145), (1840, 1423), (1840, 1841), (1840, 2813), (1840, 3145), (1841, 3106), (1841, 3145), (1842, 1501), (1842, 3145), (1843, 949), (1843, 1049), (1843, 1844), (1843, 2789), (1843, 3145), (1844, 428), (1844, 1855), (1844, 3145), (1845, 86), (1845, 1421), (1845, 2144), (1845, 2287), (1845, 3031), (1845, 3145), (1846, 1895), (1846, 3145), (1847, 86), (1847, 140), (1847, 949), (1847, 1421), (1847, 1789), (1847, 1848), (1847, 1878), (1847, 2145), (1847, 2287), (1847, 2799), (1847, 3031), (1847, 3145), (1848, 161), (1848, 162), (1848, 1049), (1848, 1740), (1848, 1784), (1848, 1850), (1848, 2360), (1848, 2362), (1848, 2799), (1848, 3145), (1849, 1501), (1849, 3145), (1850, 394), (1850, 1650), (1850, 1851), (1850, 2317), (1850, 2562), (1850, 2799), (1850, 3145), (1851, 394), (1851, 1784), (1851, 3145), (1852, 394), (1852, 619), (1852, 2737), (1852, 3131), (1852, 3145), (1853, 949), (1853, 1854), (1853, 2789), (1853, 3145), (1854, 949)]
noncomputable def edges32 : List (Nat × Nat) := [(1854, 1855), (1854, 2144), (1854, 2342), (1854, 3108), (1854, 3145), (1855, 86), (1855, 135), (1855, 139), (1855, 300), (1855, 346), (1855, 649), (1855, 782), (1855, 812), (1855, 955), (1855, 992), (1855, 1013), (1855, 1034), (1855, 1373), (1855, 1496), (1855, 1656), (1855, 2081), (1855, 2144), (1855, 2166), (1855, 2180), (1855, 2217), (1855, 2287), (1855, 2365), (1855, 2799), (1855, 2858), (1855, 2904), (1855, 2937), (1855, 2957), (1855, 3145), (1856, 292), (1856, 300), (1856, 426), (1856, 678), (1856, 750), (1856, 752), (1856, 753), (1856, 760), (1856, 949), (1856, 996), (1856, 1000), (1856, 1048), (1856, 2078), (1856, 2217), (1856, 2413), (1856, 2490), (1856, 2799), (1856, 3001), (1856, 3145), (1857, 1743), (1857, 3145), (1858, 1743), (1858, 3145), (1859, 1743), (1859, 3145), (1860, 2799), (1860, 3145), (1861, 1421), (1861, 3031), (1861, 3145), (1862, 647), (1862, 3145), (1863, 3145), (1864, 3145), (1865, 593), (1865, 3145), (1866, 2327), (1866, 2856), (1866, 3012), (1866, 3025), (1866, 3145), (1867, 3145), (1868, 2799), (1868, 3145), (1869, 3145), (1870, 2031), (1870, 3145), (1871, 2550), (1871, 3145), (1872, 3145), (1873, 3145), (1874, 162), (1874, 766), (1874, 949), (1874, 1386), (1874, 2799), (1874, 3145), (1875, 949), (1875, 1876), (1875, 2799), (1875, 3145), (1876, 162), (1876, 766), (1876, 949), (1876, 1386), (1876, 1799), (1876, 3145), (1877, 604), (1877, 621), (1877, 949), (1877, 1876), (1877, 2799), (1877, 3145), (1878, 767), (1878, 1386), (1878, 2799), (1878, 3145), (1879, 3145), (1880, 2799), (1880, 3145), (1881, 649), (1881, 949), (1881, 1429), (1881, 2222), (1881, 3031), (1881, 3145), (1882, 649), (1882, 949), (1882, 1429), (1882, 2222), (1882, 3031), (1882, 3145), (1883, 85), (1883, 228), (1883, 441), (1883, 949), (1883, 999), (1883, 1391), (1883, 1429), (1883, 1628), (1883, 2286), (1883, 3031), (1883, 3145), (1884, 3145), (1885, 3145), (1886, 3145), (1887, 3145), (1888, 3145), (1889, 3145), (1890, 3145), (1891, 3145), (1892, 3145), (1893, 3145), (1894, 3145), (1895, 101), (1895, 139), (1895, 140), (1895, 300), (1895, 992), (1895, 1049), (1895, 1496), (1895, 1789), (1895, 1846), (1895, 2166), (1895, 3145), (1896, 3143), (1896, 3144), (1896, 3145), (1897, 3145), (1898, 3145), (1899, 3145), (1900, 3145), (1901, 3145), (1902, 3145), (1903, 33), (1903, 1434), (1903, 2163), (1903, 2333), (1903, 3145), (1904, 3145), (1905, 2561), (1905, 2789), (1905, 3145), (1906, 929), (1906, 938), (1906, 3093), (1906, 3145), (1907, 3143), (1907, 3144), (1907, 3145), (1908, 1907), (1908, 3145), (1909, 168), (1909, 170), (1909, 742), (1909, 949), (1909, 958), (1909, 964), (1909, 1048), (1909, 1910), (1909, 2144), (1909, 2145), (1909, 2160), (1909, 2172), (1909, 2593), (1909, 2789), (1909, 2799), (1909, 2846), (1909, 3139), (1909, 3145), (1910, 700), (1910, 1421), (1910, 1954), (1910, 3031), (1910, 3145), (1911, 142), (1911, 1423), (1911, 1913), (1911, 1916), (1911, 2171), (1911, 2799), (1911, 3114), (1911, 3145), (1912, 3145), (1913, 3145), (1914, 3145), (1915, 3145), (1916, 3145), (1917, 3145), (1918, 168), (1918, 366), (1918, 369), (1918, 370), (1918, 1622), (1918, 1888), (1918, 1892), (1918, 1919), (1918, 1921), (1918, 1923), (1918, 1959), (1918, 1972), (1918, 2799), (1918, 3145), (1919, 168), (1919, 369), (1919, 370), (1919, 1921), (1919, 1939), (1919, 1946), (1919, 1968), (1919, 1969), (1919, 2386), (1919, 3145), (1920, 134), (1920, 168), (1920, 366), (1920, 369)]
noncomputable def edges33 : List (Nat × Nat) := [(1920, 370), (1920, 1622), (1920, 1888), (1920, 1921), (1920, 1923), (1920, 1939), (1920, 1940), (1920, 1943), (1920, 1957), (1920, 1959), (1920, 1966), (1920, 2386), (1920, 2799), (1920, 3145), (1921, 367), (1921, 368), (1921, 3145), (1922, 114), (1922, 367), (1922, 369), (1922, 1421), (1922, 1888), (1922, 2743), (1922, 3031), (1922, 3145), (1923, 168), (1923, 366), (1923, 1392), (1923, 1622), (1923, 1887), (1923, 1888), (1923, 1894), (1923, 1917), (1923, 1921), (1923, 1924), (1923, 1925), (1923, 1959), (1923, 1971), (1923, 1972), (1923, 1973), (1923, 2799), (1923, 3143), (1923, 3145), (1924, 1887), (1924, 1888), (1924, 1891), (1924, 1892), (1924, 2799), (1924, 3145), (1925, 116), (1925, 147), (1925, 148), (1925, 149), (1925, 168), (1925, 1888), (1925, 3145), (1926, 168), (1926, 369), (1926, 370), (1926, 1892), (1926, 1921), (1926, 1939), (1926, 1963), (1926, 1964), (1926, 1965), (1926, 2388), (1926, 3145), (1927, 113), (1927, 134), (1927, 135), (1927, 168), (1927, 367), (1927, 369), (1927, 1477), (1927, 1892), (1927, 1921), (1927, 1933), (1927, 1939), (1927, 1950), (1927, 2389), (1927, 2737), (1927, 2743), (1927, 2753), (1927, 2799), (1927, 3145), (1928, 118), (1928, 1622), (1928, 1937), (1928, 2390), (1928, 2799), (1928, 3145), (1929, 168), (1929, 369), (1929, 370), (1929, 1921), (1929, 1939), (1929, 1948), (1929, 1950), (1929, 1968), (1929, 1969), (1929, 2386), (1929, 3145), (1930, 1931), (1930, 2387), (1930, 2789), (1930, 3143), (1930, 3145), (1931, 1932), (1931, 3145), (1932, 366), (1932, 411), (1932, 413), (1932, 1421), (1932, 1892), (1932, 1921), (1932, 1939), (1932, 1950), (1932, 1963), (1932, 1969), (1932, 1970), (1932, 1972), (1932, 2392), (1932, 2749), (1932, 2763), (1932, 3031), (1932, 3145), (1933, 109), (1933, 110), (1933, 117), (1933, 1477), (1933, 1888), (1933, 1934), (1933, 1935), (1933, 1936), (1933, 2747), (1933, 2765), (1933, 2799), (1933, 3143), (1933, 3145), (1934, 121), (1934, 223), (1934, 1888), (1934, 3145), (1935, 96), (1935, 134), (1935, 135), (1935, 3145), (1936, 3143), (1936, 3145), (1937, 135), (1937, 2755), (1937, 2799), (1937, 3145), (1938, 367), (1938, 368), (1938, 3145), (1939, 121), (1939, 168), (1939, 369), (1939, 1678), (1939, 1921), (1939, 1967), (1939, 3145), (1940, 3145), (1941, 3145), (1942, 3145), (1943, 3145), (1944, 1941), (1944, 3145), (1945, 3145), (1946, 3145), (1947, 3145), (1948, 3145), (1949, 3145), (1950, 1947), (1950, 3145), (1951, 1952), (1951, 3145), (1952, 673), (1952, 3145), (1953, 3145), (1954, 168), (1954, 369), (1954, 370), (1954, 1892), (1954, 1921), (1954, 1939), (1954, 1950), (1954, 1953), (1954, 1964), (1954, 2388), (1954, 3145), (1955, 147), (1955, 148), (1955, 149), (1955, 3145), (1956, 1948), (1956, 3145), (1957, 1949), (1957, 3145), (1958, 1950), (1958, 3145), (1959, 1960), (1959, 1961), (1959, 1962), (1959, 3145), (1960, 3145), (1961, 3145), (1962, 673), (1962, 3145), (1963, 1944), (1963, 3145), (1964, 1941), (1964, 3145), (1965, 1942), (1965, 3145), (1966, 1940), (1966, 3145), (1967, 1917), (1967, 3145), (1968, 1942), (1968, 1956), (1968, 3145), (1969, 1944), (1969, 1958), (1969, 3145), (1970, 134), (1970, 135), (1970, 667), (1970, 2799), (1970, 3145), (1971, 3145), (1972, 3145), (1973, 3145), (1974, 3145), (1975, 3143), (1975, 3144), (1975, 3145), (1976, 678), (1976, 1979), (1976, 2009), (1976, 3145), (1977, 678), (1977, 1979), (1977, 2009), (1977, 3145), (1978, 678), (1978, 1979), (1978, 2009), (1978, 3145)]
noncomputable def edges34 : List (Nat × Nat) := [(1979, 678), (1979, 760), (1979, 949), (1979, 2799), (1979, 3145), (1980, 949), (1980, 2799), (1980, 3145), (1981, 3143), (1981, 3144), (1981, 3145), (1982, 1980), (1982, 3145), (1983, 1980), (1983, 3145), (1984, 3145), (1985, 1984), (1985, 3145), (1986, 1980), (1986, 3145), (1987, 3145), (1988, 3145), (1989, 1980), (1989, 3145), (1990, 1980), (1990, 3145), (1991, 3145), (1992, 1980), (1992, 3145), (1993, 2799), (1993, 3145), (1994, 1979), (1994, 3145), (1995, 1996), (1995, 3145), (1996, 1979), (1996, 3145), (1997, 1998), (1997, 3145), (1998, 1979), (1998, 3145), (1999, 3145), (2000, 3145), (2001, 678), (2001, 754), (2001, 760), (2001, 2799), (2001, 3145), (2002, 300), (2002, 553), (2002, 618), (2002, 949), (2002, 2412), (2002, 2717), (2002, 2718), (2002, 2858), (2002, 2908), (2002, 2916), (2002, 2937), (2002, 2957), (2002, 3143), (2002, 3145), (2003, 3031), (2003, 3145), (2004, 3145), (2005, 2006), (2005, 3145), (2006, 2799), (2006, 3145), (2007, 3145), (2008, 96), (2008, 3145), (2009, 2008), (2009, 2012), (2009, 3145), (2010, 2008), (2010, 2012), (2010, 3145), (2011, 2008), (2011, 2012), (2011, 3145), (2012, 86), (2012, 348), (2012, 750), (2012, 752), (2012, 760), (2012, 2013), (2012, 2287), (2012, 2655), (2012, 2799), (2012, 3145), (2013, 3145), (2014, 2015), (2014, 2789), (2014, 3145), (2015, 2016), (2015, 3145), (2016, 86), (2016, 135), (2016, 1421), (2016, 1872), (2016, 2144), (2016, 2287), (2016, 2737), (2016, 2749), (2016, 2799), (2016, 3031), (2016, 3145), (2017, 1365), (2017, 1367), (2017, 2018), (2017, 3145), (2018, 3145), (2019, 168), (2019, 1402), (2019, 1799), (2019, 1913), (2019, 1916), (2019, 2144), (2019, 3145), (2020, 168), (2020, 2019), (2020, 3145), (2021, 168), (2021, 1401), (2021, 1799), (2021, 1913), (2021, 1916), (2021, 2145), (2021, 2339), (2021, 2799), (2021, 3145), (2022, 3145), (2023, 3145), (2024, 3145), (2025, 2024), (2025, 3145), (2026, 2024), (2026, 3145), (2027, 2463), (2027, 3145), (2028, 793), (2028, 3145), (2029, 676), (2029, 1776), (2029, 3145), (2030, 592), (2030, 1087), (2030, 2327), (2030, 2856), (2030, 3145), (2031, 3143), (2031, 3144), (2031, 3145), (2032, 2296), (2032, 3145), (2033, 3145), (2034, 3145), (2035, 89), (2035, 1085), (2035, 1374), (2035, 1421), (2035, 1723), (2035, 1724), (2035, 2036), (2035, 2296), (2035, 2329), (2035, 2799), (2035, 2856), (2035, 3026), (2035, 3031), (2035, 3145), (2036, 678), (2036, 750), (2036, 752), (2036, 760), (2036, 1720), (2036, 2799), (2036, 3145), (2037, 23), (2037, 89), (2037, 104), (2037, 221), (2037, 592), (2037, 676), (2037, 949), (2037, 1778), (2037, 1779), (2037, 2327), (2037, 2579), (2037, 2659), (2037, 2799), (2037, 2856), (2037, 3020), (2037, 3054), (2037, 3055), (2037, 3058), (2037, 3145), (2038, 96), (2038, 1421), (2038, 1423), (2038, 2014), (2038, 2813), (2038, 3031), (2038, 3145), (2039, 1421), (2039, 2042), (2039, 3031), (2039, 3145), (2040, 3145), (2041, 3145), (2042, 3145), (2043, 3145), (2044, 949), (2044, 1799), (2044, 2144), (2044, 3145), (2045, 3145), (2046, 3145), (2047, 3145), (2048, 3145), (2049, 772), (2049, 776), (2049, 949), (2049, 1335), (2049, 1805), (2049, 1806), (2049, 1807), (2049, 1822), (2049, 2144), (2049, 2339), (2049, 3145), (2050, 2439), (2050, 3145), (2051, 2443), (2051, 3145), (2052, 1811), (2052, 3145), (2053, 1818), (2053, 2039), (2053, 2799), (2053, 3145), (2054, 1421), (2054, 1823), (2054, 2038), (2054, 2039), (2054, 2042), (2054, 2043), (2054, 2799), (2054, 3031)]
noncomputable def edges35 : List (Nat × Nat) := [(2054, 3145), (2055, 1817), (2055, 3145), (2056, 1810), (2056, 3145), (2057, 1421), (2057, 1799), (2057, 1806), (2057, 1809), (2057, 1812), (2057, 1813), (2057, 1820), (2057, 1825), (2057, 2041), (2057, 2042), (2057, 2820), (2057, 2824), (2057, 3031), (2057, 3145), (2058, 1421), (2058, 1806), (2058, 1820), (2058, 1825), (2058, 2042), (2058, 2799), (2058, 2824), (2058, 3031), (2058, 3145), (2059, 1814), (2059, 1815), (2059, 1817), (2059, 3145), (2060, 1815), (2060, 3145), (2061, 86), (2061, 1421), (2061, 2144), (2061, 2287), (2061, 3031), (2061, 3145), (2062, 134), (2062, 949), (2062, 2473), (2062, 2858), (2062, 2871), (2062, 2923), (2062, 2937), (2062, 2957), (2062, 3145), (2063, 224), (2063, 2064), (2063, 3145), (2064, 3145), (2065, 2801), (2065, 3145), (2066, 733), (2066, 3145), (2067, 1006), (2067, 3145), (2068, 1014), (2068, 3145), (2069, 1481), (2069, 3145), (2070, 1653), (2070, 2071), (2070, 3145), (2071, 3145), (2072, 1795), (2072, 2073), (2072, 3145), (2073, 3145), (2074, 2075), (2074, 2798), (2074, 3145), (2075, 3145), (2076, 949), (2076, 2014), (2076, 3145), (2077, 2360), (2077, 2362), (2077, 2550), (2077, 3145), (2078, 296), (2078, 299), (2078, 553), (2078, 572), (2078, 678), (2078, 752), (2078, 760), (2078, 2217), (2078, 2412), (2078, 2799), (2078, 2858), (2078, 2908), (2078, 2937), (2078, 2957), (2078, 3145), (2079, 2080), (2079, 3145), (2080, 949), (2080, 1788), (2080, 2077), (2080, 2217), (2080, 3145), (2081, 3145), (2082, 1421), (2082, 1466), (2082, 2799), (2082, 3031), (2082, 3145), (2083, 3145), (2084, 3145), (2085, 3145), (2086, 3145), (2087, 3145), (2088, 3145), (2089, 457), (2089, 458), (2089, 459), (2089, 1385), (2089, 1869), (2089, 2109), (2089, 2120), (2089, 2572), (2089, 2738), (2089, 3145), (2090, 678), (2090, 750), (2090, 752), (2090, 758), (2090, 760), (2090, 3145), (2091, 3145), (2092, 3145), (2093, 592), (2093, 2111), (2093, 3145), (2094, 3145), (2095, 3145), (2096, 2117), (2096, 3145), (2097, 1050), (2097, 3145), (2098, 1050), (2098, 3145), (2099, 3145), (2100, 3145), (2101, 2096), (2101, 2097), (2101, 2098), (2101, 2101), (2101, 2102), (2101, 2103), (2101, 2104), (2101, 2106), (2101, 2108), (2101, 2109), (2101, 2110), (2101, 2113), (2101, 2114), (2101, 2115), (2101, 2116), (2101, 2117), (2101, 2118), (2101, 2119), (2101, 2120), (2101, 3145), (2102, 1050), (2102, 3145), (2103, 1050), (2103, 3145), (2104, 2105), (2104, 3145), (2105, 1050), (2105, 3145), (2106, 2096), (2106, 2097), (2106, 2098), (2106, 2101), (2106, 2102), (2106, 2103), (2106, 2104), (2106, 2106), (2106, 2108), (2106, 2109), (2106, 2110), (2106, 2113), (2106, 2114), (2106, 2115), (2106, 2116), (2106, 2117), (2106, 2118), (2106, 2119), (2106, 2120), (2106, 3145), (2107, 3145), (2108, 1050), (2108, 3145), (2109, 949), (2109, 1421), (2109, 3145), (2110, 2117), (2110, 3145), (2111, 3145), (2112, 2095), (2112, 2107), (2112, 3145), (2113, 2104), (2113, 3145), (2114, 251), (2114, 1050), (2114, 2096), (2114, 2097), (2114, 2098), (2114, 2101), (2114, 2102), (2114, 2103), (2114, 2104), (2114, 2105), (2114, 2106), (2114, 2108), (2114, 2109), (2114, 2110), (2114, 2113), (2114, 2114), (2114, 2115), (2114, 2116), (2114, 2117), (2114, 2118), (2114, 2119), (2114, 2120), (2114, 3145), (2115, 2096), (2115, 2097), (2115, 2098), (2115, 2101), (2115, 2102), (2115, 2103), (2115, 2104), (2115, 2106), (2115, 2108), (2115, 2109), (2115, 2110), (2115, 2113), (2115, 2114), (2115, 2115), (2115, 2116), (2115, 2117), (2115, 2118), (2115, 2119)]
noncomputable def edges36 : List (Nat × Nat) := [(2115, 2120), (2115, 3145), (2116, 2117), (2116, 3145), (2117, 251), (2117, 1050), (2117, 3145), (2118, 1050), (2118, 3145), (2119, 2104), (2119, 3145), (2120, 949), (2120, 3031), (2120, 3145), (2121, 949), (2121, 2144), (2121, 3145), (2122, 949), (2122, 3145), (2123, 87), (2123, 168), (2123, 170), (2123, 196), (2123, 802), (2123, 813), (2123, 949), (2123, 1421), (2123, 1471), (2123, 1637), (2123, 1684), (2123, 1685), (2123, 1789), (2123, 1799), (2123, 1909), (2123, 1911), (2123, 1915), (2123, 2021), (2123, 2144), (2123, 2145), (2123, 2195), (2123, 2339), (2123, 2799), (2123, 2858), (2123, 2910), (2123, 2911), (2123, 2917), (2123, 2928), (2123, 2937), (2123, 2957), (2123, 3031), (2123, 3145), (2124, 2125), (2124, 3145), (2125, 3143), (2125, 3144), (2125, 3145), (2126, 3145), (2127, 3145), (2128, 3145), (2129, 431), (2129, 2127), (2129, 2139), (2129, 2140), (2129, 3145), (2130, 431), (2130, 2127), (2130, 2139), (2130, 2140), (2130, 3145), (2131, 2136), (2131, 2799), (2131, 3145), (2132, 3145), (2133, 3145), (2134, 431), (2134, 1873), (2134, 1877), (2134, 2126), (2134, 2127), (2134, 2128), (2134, 2132), (2134, 2135), (2134, 2138), (2134, 2139), (2134, 2140), (2134, 2157), (2134, 2799), (2134, 3145), (2135, 3145), (2136, 1878), (2136, 2126), (2136, 2127), (2136, 3145), (2137, 431), (2137, 1878), (2137, 2126), (2137, 2127), (2137, 2129), (2137, 2130), (2137, 2132), (2137, 2133), (2137, 2135), (2137, 2136), (2137, 2137), (2137, 2138), (2137, 2139), (2137, 2140), (2137, 2799), (2137, 3145), (2138, 3145), (2139, 3145), (2140, 3145), (2141, 940), (2141, 1456), (2141, 1862), (2141, 2799), (2141, 3145), (2142, 2014), (2142, 2335), (2142, 2799), (2142, 3145), (2143, 3143), (2143, 3144), (2143, 3145), (2144, 3145), (2145, 3145), (2146, 3145), (2147, 101), (2147, 3145), (2148, 1396), (2148, 3123), (2148, 3145), (2149, 1396), (2149, 3124), (2149, 3145), (2150, 1421), (2150, 2014), (2150, 2799), (2150, 3031), (2150, 3145), (2151, 2215), (2151, 3145), (2152, 2216), (2152, 3145), (2153, 86), (2153, 949), (2153, 2161), (2153, 2164), (2153, 2168), (2153, 2287), (2153, 3145), (2154, 2799), (2154, 3145), (2155, 86), (2155, 949), (2155, 2160), (2155, 2164), (2155, 2168), (2155, 2287), (2155, 3145), (2156, 2799), (2156, 3145), (2157, 2799), (2157, 3145), (2158, 2799), (2158, 3145), (2159, 2799), (2159, 3145), (2160, 2799), (2160, 3145), (2161, 2799), (2161, 3145), (2162, 2799), (2162, 3145), (2163, 2799), (2163, 3145), (2164, 2799), (2164, 3145), (2165, 2799), (2165, 3145), (2166, 2799), (2166, 3145), (2167, 2799), (2167, 3145), (2168, 2799), (2168, 3145), (2169, 2799), (2169, 3145), (2170, 335), (2170, 2157), (2170, 2159), (2170, 2175), (2170, 2176), (2170, 2177), (2170, 2178), (2170, 3145), (2171, 2799), (2171, 3145), (2172, 2799), (2172, 3145), (2173, 2799), (2173, 3145), (2174, 2799), (2174, 3145), (2175, 2799), (2175, 3145), (2176, 2799), (2176, 3145), (2177, 2799), (2177, 3145), (2178, 2799), (2178, 3145), (2179, 2799), (2179, 3145), (2180, 2799), (2180, 3145), (2181, 335), (2181, 2157), (2181, 2159), (2181, 2175), (2181, 2178), (2181, 3145), (2182, 2799), (2182, 3145), (2183, 2799), (2183, 3145), (2184, 3143), (2184, 3144), (2184, 3145), (2185, 2184), (2185, 2482), (2185, 2535), (2185, 2547), (2185, 3029), (2185, 3070), (2185, 3145), (2186, 3143), (2186, 3144), (2186, 3145), (2187, 949), (2187, 3145), (2188, 2187), (2188, 3145), (2189, 649), (2189, 3145), (2190, 138), (2190, 649), (2190, 1421), (2190, 2210), (2190, 2211)]
noncomputable def edges37 : List (Nat × Nat) := [(2190, 3031), (2190, 3145), (2191, 2187), (2191, 3145), (2192, 3145), (2193, 3145), (2194, 3145), (2195, 920), (2195, 3145), (2196, 3145), (2197, 96), (2197, 1501), (2197, 1656), (2197, 2320), (2197, 3145), (2198, 96), (2198, 1501), (2198, 1656), (2198, 2320), (2198, 2799), (2198, 3145), (2199, 1501), (2199, 3145), (2200, 2199), (2200, 2572), (2200, 3145), (2201, 3143), (2201, 3144), (2201, 3145), (2202, 2203), (2202, 2789), (2202, 3145), (2203, 2204), (2203, 3145), (2204, 1421), (2204, 2799), (2204, 3031), (2204, 3145), (2205, 995), (2205, 3145), (2206, 995), (2206, 2004), (2206, 2799), (2206, 3145), (2207, 1266), (2207, 1681), (2207, 1682), (2207, 3145), (2208, 1266), (2208, 1681), (2208, 1682), (2208, 2209), (2208, 3145), (2209, 2649), (2209, 3143), (2209, 3145), (2210, 396), (2210, 1896), (2210, 2201), (2210, 3145), (2211, 1799), (2211, 3145), (2212, 168), (2212, 949), (2212, 1421), (2212, 2175), (2212, 2213), (2212, 2443), (2212, 2799), (2212, 2879), (2212, 2880), (2212, 3031), (2212, 3145), (2213, 949), (2213, 3145), (2214, 3145), (2215, 3145), (2216, 3145), (2217, 3145), (2218, 170), (2218, 415), (2218, 708), (2218, 819), (2218, 1421), (2218, 2750), (2218, 2789), (2218, 2799), (2218, 3031), (2218, 3145), (2219, 3145), (2220, 96), (2220, 3145), (2221, 86), (2221, 300), (2221, 572), (2221, 2144), (2221, 2217), (2221, 2287), (2221, 2342), (2221, 2799), (2221, 2858), (2221, 2916), (2221, 2937), (2221, 2957), (2221, 3108), (2221, 3145), (2222, 441), (2222, 1001), (2222, 3145), (2223, 2109), (2223, 2120), (2223, 3145), (2224, 168), (2224, 2737), (2224, 2741), (2224, 2799), (2224, 3145), (2225, 678), (2225, 750), (2225, 996), (2225, 2799), (2225, 3145), (2226, 335), (2226, 441), (2226, 649), (2226, 949), (2226, 1001), (2226, 1627), (2226, 1628), (2226, 2170), (2226, 2181), (2226, 2227), (2226, 3023), (2226, 3143), (2226, 3145), (2227, 1627), (2227, 1677), (2227, 3018), (2227, 3145), (2228, 3145), (2229, 300), (2229, 603), (2229, 949), (2229, 2144), (2229, 2145), (2229, 2230), (2229, 2231), (2229, 2232), (2229, 2233), (2229, 2337), (2229, 2364), (2229, 2789), (2229, 2858), (2229, 2937), (2229, 2957), (2229, 3145), (2230, 2799), (2230, 3145), (2231, 2799), (2231, 3145), (2232, 2914), (2232, 3145), (2233, 602), (2233, 3145), (2234, 1421), (2234, 2157), (2234, 3145), (2235, 2175), (2235, 3031), (2235, 3145), (2236, 2234), (2236, 2235), (2236, 3145), (2237, 336), (2237, 3145), (2238, 395), (2238, 3145), (2239, 337), (2239, 3145), (2240, 339), (2240, 3145), (2241, 343), (2241, 3145), (2242, 2037), (2242, 3145), (2243, 96), (2243, 1043), (2243, 1656), (2243, 3145), (2244, 166), (2244, 3145), (2245, 1487), (2245, 3145), (2246, 1490), (2246, 2799), (2246, 3145), (2247, 1582), (2247, 3145), (2248, 1585), (2248, 3145), (2249, 1587), (2249, 3023), (2249, 3145), (2250, 1592), (2250, 3023), (2250, 3145), (2251, 1593), (2251, 3145), (2252, 1595), (2252, 3145), (2253, 1598), (2253, 3145), (2254, 3145), (2255, 1600), (2255, 3145), (2256, 3145), (2257, 1601), (2257, 3145), (2258, 2173), (2258, 2258), (2258, 3145), (2259, 1656), (2259, 3145), (2260, 1677), (2260, 3145), (2261, 2296), (2261, 3145), (2262, 2328), (2262, 2856), (2262, 3145), (2263, 2329), (2263, 2856), (2263, 3145), (2264, 222), (2264, 2423), (2264, 2429), (2264, 3145), (2265, 248), (2265, 1656), (2265, 3145), (2266, 3022), (2266, 3145), (2267, 248), (2267, 1656), (2267, 3145), (2268, 158), (2268, 161), (2268, 1739), (2268, 1740), (2268, 2154)]
noncomputable def edges38 : List (Nat × Nat) := [(2268, 2156), (2268, 2268), (2268, 3023), (2268, 3145), (2269, 2573), (2269, 3024), (2269, 3145), (2270, 3025), (2270, 3145), (2271, 89), (2271, 3145), (2272, 1501), (2272, 3145), (2273, 1842), (2273, 3145), (2274, 3043), (2274, 3145), (2275, 2588), (2275, 3145), (2276, 3143), (2276, 3144), (2276, 3145), (2277, 248), (2277, 1677), (2277, 3145), (2278, 337), (2278, 3145), (2279, 166), (2279, 3145), (2280, 2173), (2280, 2258), (2280, 3145), (2281, 2296), (2281, 3145), (2282, 2329), (2282, 2856), (2282, 3145), (2283, 2268), (2283, 3145), (2284, 1501), (2284, 3145), (2285, 949), (2285, 2287), (2285, 3145), (2286, 86), (2286, 949), (2286, 1421), (2286, 1625), (2286, 1627), (2286, 2144), (2286, 2287), (2286, 2799), (2286, 3031), (2286, 3145), (2287, 949), (2287, 3145), (2288, 949), (2288, 2144), (2288, 2289), (2288, 2858), (2288, 2928), (2288, 2937), (2288, 2957), (2288, 3145), (2289, 825), (2289, 949), (2289, 1788), (2289, 2144), (2289, 2799), (2289, 3145), (2290, 700), (2290, 1421), (2290, 2291), (2290, 3031), (2290, 3145), (2291, 86), (2291, 1421), (2291, 1743), (2291, 1747), (2291, 1776), (2291, 2287), (2291, 2581), (2291, 2589), (2291, 2799), (2291, 3031), (2291, 3145), (2292, 2006), (2292, 3145), (2293, 2823), (2293, 3145), (2294, 649), (2294, 949), (2294, 2175), (2294, 2823), (2294, 3145), (2295, 949), (2295, 2799), (2295, 3108), (2295, 3145), (2296, 2234), (2296, 2235), (2296, 2799), (2296, 3145), (2297, 2234), (2297, 2235), (2297, 2799), (2297, 3145), (2298, 949), (2298, 3145), (2299, 3145), (2300, 299), (2300, 572), (2300, 2217), (2300, 2221), (2300, 2799), (2300, 3145), (2301, 1052), (2301, 1089), (2301, 1421), (2301, 2080), (2301, 2339), (2301, 2447), (2301, 2784), (2301, 2785), (2301, 3031), (2301, 3145), (2302, 3143), (2302, 3144), (2302, 3145), (2303, 3143), (2303, 3144), (2303, 3145), (2304, 3143), (2304, 3144), (2304, 3145), (2305, 3143), (2305, 3144), (2305, 3145), (2306, 3143), (2306, 3144), (2306, 3145), (2307, 3143), (2307, 3144), (2307, 3145), (2308, 3143), (2308, 3144), (2308, 3145), (2309, 3143), (2309, 3144), (2309, 3145), (2310, 3143), (2310, 3144), (2310, 3145), (2311, 3143), (2311, 3144), (2311, 3145), (2312, 3143), (2312, 3144), (2312, 3145), (2313, 3143), (2313, 3144), (2313, 3145), (2314, 3143), (2314, 3144), (2314, 3145), (2315, 3143), (2315, 3144), (2315, 3145), (2316, 3143), (2316, 3144), (2316, 3145), (2317, 3071), (2317, 3143), (2317, 3145), (2318, 3145), (2319, 3145), (2320, 492), (2320, 3145), (2321, 3143), (2321, 3144), (2321, 3145), (2322, 3143), (2322, 3144), (2322, 3145), (2323, 3143), (2323, 3144), (2323, 3145), (2324, 2327), (2324, 3145), (2325, 2296), (2325, 3145), (2326, 2325), (2326, 2330), (2326, 3145), (2327, 2325), (2327, 3145), (2328, 1720), (2328, 2234), (2328, 2235), (2328, 2799), (2328, 3040), (2328, 3145), (2329, 2297), (2329, 3145), (2330, 3145), (2331, 170), (2331, 598), (2331, 835), (2331, 869), (2331, 892), (2331, 949), (2331, 2144), (2331, 2638), (2331, 3117), (2331, 3143), (2331, 3145), (2332, 376), (2332, 379), (2332, 380), (2332, 1396), (2332, 2153), (2332, 2155), (2332, 2157), (2332, 2162), (2332, 2175), (2332, 3143), (2332, 3145), (2333, 3145), (2334, 166), (2334, 672), (2334, 949), (2334, 998), (2334, 1421), (2334, 1501), (2334, 2162), (2334, 2276), (2334, 2799), (2334, 3031), (2334, 3145), (2335, 97), (2335, 2680), (2335, 2681), (2335, 3145), (2336, 649), (2336, 949), (2336, 3145), (2337, 949), (2337, 1421), (2337, 1878), (2337, 2144)]
noncomputable def edges39 : List (Nat × Nat) := [(2337, 3031), (2337, 3143), (2337, 3145), (2338, 780), (2338, 1047), (2338, 1048), (2338, 3145), (2339, 3145), (2340, 1047), (2340, 1048), (2340, 3145), (2341, 1047), (2341, 1788), (2341, 1907), (2341, 2217), (2341, 3070), (2341, 3145), (2342, 1047), (2342, 1048), (2342, 1049), (2342, 2191), (2342, 2345), (2342, 3145), (2343, 348), (2343, 776), (2343, 777), (2343, 1049), (2343, 2344), (2343, 3143), (2343, 3145), (2344, 3145), (2345, 348), (2345, 769), (2345, 963), (2345, 1048), (2345, 1049), (2345, 1421), (2345, 2799), (2345, 3031), (2345, 3145), (2346, 1048), (2346, 2341), (2346, 2799), (2346, 3145), (2347, 3145), (2348, 752), (2348, 1342), (2348, 1829), (2348, 2619), (2348, 3145), (2349, 2350), (2349, 2642), (2349, 2661), (2349, 2789), (2349, 3145), (2350, 2218), (2350, 3137), (2350, 3145), (2351, 17), (2351, 2352), (2351, 2789), (2351, 3145), (2352, 1706), (2352, 3145), (2353, 594), (2353, 678), (2353, 752), (2353, 1337), (2353, 1339), (2353, 1340), (2353, 1342), (2353, 1829), (2353, 3145), (2354, 949), (2354, 3145), (2355, 1421), (2355, 2134), (2355, 3031), (2355, 3145), (2356, 949), (2356, 2179), (2356, 3145), (2357, 1423), (2357, 3145), (2358, 949), (2358, 1421), (2358, 2359), (2358, 2789), (2358, 3031), (2358, 3145), (2359, 1789), (2359, 1873), (2359, 1874), (2359, 3031), (2359, 3145), (2360, 84), (2360, 939), (2360, 1430), (2360, 2361), (2360, 2789), (2360, 3145), (2361, 949), (2361, 1421), (2361, 1789), (2361, 1873), (2361, 1874), (2361, 3031), (2361, 3145), (2362, 1421), (2362, 1788), (2362, 1878), (2362, 2285), (2362, 2799), (2362, 3031), (2362, 3145), (2363, 1421), (2363, 1788), (2363, 1789), (2363, 1878), (2363, 2799), (2363, 3031), (2363, 3145), (2364, 205), (2364, 949), (2364, 2799), (2364, 3145), (2365, 919), (2365, 3145), (2366, 239), (2366, 1421), (2366, 2656), (2366, 3031), (2366, 3145), (2367, 86), (2367, 290), (2367, 729), (2367, 919), (2367, 948), (2367, 949), (2367, 1439), (2367, 2287), (2367, 2366), (2367, 2799), (2367, 3011), (2367, 3145), (2368, 1481), (2368, 3006), (2368, 3054), (2368, 3145), (2369, 3143), (2369, 3144), (2369, 3145), (2370, 104), (2370, 1042), (2370, 1070), (2370, 1743), (2370, 1758), (2370, 1767), (2370, 2109), (2370, 2120), (2370, 2589), (2370, 2626), (2370, 2799), (2370, 3013), (2370, 3145), (2371, 104), (2371, 1069), (2371, 1758), (2371, 1767), (2371, 2589), (2371, 3145), (2372, 676), (2372, 896), (2372, 898), (2372, 1042), (2372, 1743), (2372, 1779), (2372, 2579), (2372, 2580), (2372, 2590), (2372, 2799), (2372, 3013), (2372, 3019), (2372, 3020), (2372, 3021), (2372, 3145), (2373, 630), (2373, 676), (2373, 1042), (2373, 2583), (2373, 3013), (2373, 3145), (2374, 630), (2374, 676), (2374, 1042), (2374, 2583), (2374, 3013), (2374, 3145), (2375, 676), (2375, 1042), (2375, 1885), (2375, 1886), (2375, 2373), (2375, 2374), (2375, 2579), (2375, 2580), (2375, 2585), (2375, 2587), (2375, 2591), (2375, 2613), (2375, 2799), (2375, 3013), (2375, 3145), (2376, 104), (2376, 676), (2376, 1042), (2376, 2626), (2376, 3013), (2376, 3145), (2377, 752), (2377, 760), (2377, 2370), (2377, 2376), (2377, 2622), (2377, 2657), (2377, 2659), (2377, 3145), (2378, 949), (2378, 1371), (2378, 2109), (2378, 2120), (2378, 2144), (2378, 2148), (2378, 2217), (2378, 2370), (2378, 2376), (2378, 2377), (2378, 2490), (2378, 2620), (2378, 2621), (2378, 2623), (2378, 2624), (2378, 2625), (2378, 2626), (2378, 2799), (2378, 3053), (2378, 3055), (2378, 3058), (2378, 3145), (2379, 2384)]
noncomputable def edges40 : List (Nat × Nat) := [(2379, 2799), (2379, 3145), (2380, 2385), (2380, 2799), (2380, 3145), (2381, 3145), (2382, 2383), (2382, 3145), (2383, 3145), (2384, 3145), (2385, 3145), (2386, 190), (2386, 191), (2386, 2379), (2386, 3145), (2387, 185), (2387, 186), (2387, 188), (2387, 189), (2387, 190), (2387, 366), (2387, 369), (2387, 370), (2387, 1888), (2387, 2382), (2387, 3145), (2388, 186), (2388, 187), (2388, 190), (2388, 191), (2388, 366), (2388, 1892), (2388, 2380), (2388, 3145), (2389, 369), (2389, 2393), (2389, 3145), (2390, 185), (2390, 2394), (2390, 3145), (2391, 186), (2391, 187), (2391, 1888), (2391, 1892), (2391, 3145), (2392, 190), (2392, 191), (2392, 2384), (2392, 3145), (2393, 109), (2393, 110), (2393, 134), (2393, 135), (2393, 369), (2393, 1477), (2393, 1888), (2393, 2747), (2393, 2765), (2393, 2799), (2393, 3145), (2394, 2755), (2394, 3145), (2395, 1421), (2395, 3031), (2395, 3145), (2396, 949), (2396, 1423), (2396, 2397), (2396, 2398), (2396, 2399), (2396, 2400), (2396, 2799), (2396, 2813), (2396, 3145), (2397, 2405), (2397, 3145), (2398, 1799), (2398, 1930), (2398, 3145), (2399, 1062), (2399, 3145), (2400, 3145), (2401, 949), (2401, 999), (2401, 1421), (2401, 2799), (2401, 3145), (2402, 3145), (2403, 949), (2403, 1421), (2403, 2799), (2403, 3031), (2403, 3143), (2403, 3145), (2404, 949), (2404, 999), (2404, 1421), (2404, 1799), (2404, 2017), (2404, 2395), (2404, 2799), (2404, 2823), (2404, 2824), (2404, 3031), (2404, 3143), (2404, 3145), (2405, 774), (2405, 1335), (2405, 1421), (2405, 3031), (2405, 3145), (2406, 963), (2406, 1421), (2406, 2647), (2406, 3031), (2406, 3145), (2407, 168), (2407, 1373), (2407, 3145), (2408, 925), (2408, 1421), (2408, 1650), (2408, 2447), (2408, 2784), (2408, 3031), (2408, 3145), (2409, 3143), (2409, 3144), (2409, 3145), (2410, 133), (2410, 360), (2410, 440), (2410, 479), (2410, 480), (2410, 683), (2410, 922), (2410, 937), (2410, 949), (2410, 983), (2410, 990), (2410, 995), (2410, 1380), (2410, 1417), (2410, 1421), (2410, 1423), (2410, 1428), (2410, 1452), (2410, 1574), (2410, 1649), (2410, 1722), (2410, 1724), (2410, 1799), (2410, 2005), (2410, 2123), (2410, 2167), (2410, 2190), (2410, 2357), (2410, 2421), (2410, 2567), (2410, 2627), (2410, 2633), (2410, 2660), (2410, 2799), (2410, 2802), (2410, 2895), (2410, 3026), (2410, 3031), (2410, 3125), (2410, 3126), (2410, 3145), (2411, 3145), (2412, 618), (2412, 677), (2412, 780), (2412, 825), (2412, 949), (2412, 1048), (2412, 1421), (2412, 1438), (2412, 2144), (2412, 2295), (2412, 2407), (2412, 2646), (2412, 2666), (2412, 2799), (2412, 3031), (2412, 3108), (2412, 3145), (2413, 3143), (2413, 3144), (2413, 3145), (2414, 86), (2414, 949), (2414, 2287), (2414, 2358), (2414, 2363), (2414, 2642), (2414, 2661), (2414, 3145), (2415, 949), (2415, 3145), (2416, 949), (2416, 3145), (2417, 949), (2417, 2418), (2417, 2789), (2417, 3145), (2418, 86), (2418, 1656), (2418, 2287), (2418, 3145), (2419, 949), (2419, 3145), (2420, 949), (2420, 3145), (2421, 1333), (2421, 1370), (2421, 2422), (2421, 3145), (2422, 3145), (2423, 85), (2423, 158), (2423, 161), (2423, 225), (2423, 228), (2423, 335), (2423, 348), (2423, 441), (2423, 649), (2423, 949), (2423, 998), (2423, 1053), (2423, 1054), (2423, 1626), (2423, 1628), (2423, 1739), (2423, 1740), (2423, 2154), (2423, 2156), (2423, 2157), (2423, 2170), (2423, 2173), (2423, 2226), (2423, 2286), (2423, 2424), (2423, 2425), (2423, 2426), (2423, 2430), (2423, 2431), (2423, 2432)]
noncomputable def edges41 : List (Nat × Nat) := [(2423, 2445), (2423, 2799), (2423, 2818), (2423, 3022), (2423, 3023), (2423, 3028), (2423, 3100), (2423, 3101), (2423, 3102), (2423, 3143), (2423, 3145), (2424, 3145), (2425, 2432), (2425, 3145), (2426, 2432), (2426, 3145), (2427, 339), (2427, 3145), (2428, 343), (2428, 3145), (2429, 3145), (2430, 1421), (2430, 3145), (2431, 1625), (2431, 3031), (2431, 3145), (2432, 3031), (2432, 3145), (2433, 3145), (2434, 441), (2434, 1628), (2434, 1631), (2434, 2436), (2434, 2437), (2434, 3145), (2435, 346), (2435, 949), (2435, 1628), (2435, 1631), (2435, 2436), (2435, 2437), (2435, 3145), (2436, 2799), (2436, 3145), (2437, 2799), (2437, 3145), (2438, 2439), (2438, 3145), (2439, 85), (2439, 228), (2439, 294), (2439, 441), (2439, 949), (2439, 999), (2439, 1429), (2439, 2286), (2439, 2433), (2439, 2435), (2439, 2799), (2439, 3031), (2439, 3145), (2440, 3145), (2441, 766), (2441, 949), (2441, 3145), (2442, 767), (2442, 3145), (2443, 2444), (2443, 3145), (2444, 294), (2444, 949), (2444, 1040), (2444, 1429), (2444, 1798), (2444, 2222), (2444, 2433), (2444, 2434), (2444, 2799), (2444, 3031), (2444, 3145), (2445, 441), (2445, 649), (2445, 949), (2445, 1001), (2445, 1627), (2445, 1628), (2445, 2170), (2445, 2181), (2445, 2446), (2445, 3143), (2445, 3145), (2446, 1627), (2446, 1677), (2446, 3018), (2446, 3145), (2447, 299), (2447, 304), (2447, 1788), (2447, 2144), (2447, 2217), (2447, 3145), (2448, 840), (2448, 931), (2448, 949), (2448, 1611), (2448, 2109), (2448, 2799), (2448, 3145), (2449, 23), (2449, 86), (2449, 122), (2449, 699), (2449, 1421), (2449, 2287), (2449, 3031), (2449, 3145), (2450, 3145), (2451, 2449), (2451, 3145), (2452, 888), (2452, 2453), (2452, 2789), (2452, 3145), (2453, 809), (2453, 829), (2453, 1421), (2453, 3031), (2453, 3145), (2454, 3145), (2455, 1049), (2455, 3145), (2456, 949), (2456, 3145), (2457, 1789), (2457, 3145), (2458, 3145), (2459, 361), (2459, 1421), (2459, 3031), (2459, 3145), (2460, 2461), (2460, 2789), (2460, 3145), (2461, 809), (2461, 831), (2461, 1421), (2461, 3031), (2461, 3145), (2462, 949), (2462, 3145), (2463, 23), (2463, 86), (2463, 1421), (2463, 1747), (2463, 1748), (2463, 1764), (2463, 1767), (2463, 1773), (2463, 2022), (2463, 2023), (2463, 2025), (2463, 2026), (2463, 2028), (2463, 2287), (2463, 2464), (2463, 2465), (2463, 2589), (2463, 2789), (2463, 2799), (2463, 3031), (2463, 3145), (2464, 1752), (2464, 3145), (2465, 1745), (2465, 3145), (2466, 2467), (2466, 3145), (2467, 953), (2467, 2480), (2467, 2482), (2467, 2493), (2467, 2547), (2467, 2854), (2467, 3145), (2468, 3145), (2469, 170), (2469, 721), (2469, 2470), (2469, 3145), (2470, 1630), (2470, 3095), (2470, 3098), (2470, 3145), (2471, 348), (2471, 949), (2471, 2799), (2471, 2832), (2471, 2833), (2471, 2834), (2471, 2853), (2471, 3145), (2472, 949), (2472, 3145), (2473, 23), (2473, 86), (2473, 122), (2473, 699), (2473, 1421), (2473, 2287), (2473, 3031), (2473, 3145), (2474, 596), (2474, 3145), (2475, 2476), (2475, 3145), (2476, 3145), (2477, 949), (2477, 1421), (2477, 1907), (2477, 2466), (2477, 2471), (2477, 3031), (2477, 3145), (2478, 162), (2478, 445), (2478, 3145), (2479, 3143), (2479, 3144), (2479, 3145), (2480, 3143), (2480, 3144), (2480, 3145), (2481, 122), (2481, 699), (2481, 1421), (2481, 2799), (2481, 3031), (2481, 3145), (2482, 324), (2482, 2498), (2482, 2544), (2482, 2547), (2482, 2566), (2482, 2569), (2482, 3145), (2483, 949), (2483, 3145), (2484, 2498), (2484, 3145), (2485, 3143)]
noncomputable def edges42 : List (Nat × Nat) := [(2485, 3144), (2485, 3145), (2486, 676), (2486, 949), (2486, 1042), (2486, 2144), (2486, 3013), (2486, 3145), (2487, 678), (2487, 752), (2487, 3145), (2488, 949), (2488, 1048), (2488, 2489), (2488, 3145), (2489, 594), (2489, 1039), (2489, 1362), (2489, 2619), (2489, 3145), (2490, 426), (2490, 949), (2490, 1371), (2490, 2217), (2490, 2799), (2490, 3145), (2491, 949), (2491, 1088), (2491, 1467), (2491, 1743), (2491, 2539), (2491, 2588), (2491, 3145), (2492, 3145), (2493, 3145), (2494, 2799), (2494, 3145), (2495, 2799), (2495, 3145), (2496, 2799), (2496, 3145), (2497, 2799), (2497, 3145), (2498, 158), (2498, 161), (2498, 286), (2498, 698), (2498, 949), (2498, 1739), (2498, 1740), (2498, 2499), (2498, 2759), (2498, 2789), (2498, 3145), (2499, 286), (2499, 3145), (2500, 3145), (2501, 3143), (2501, 3144), (2501, 3145), (2502, 2562), (2502, 3145), (2503, 2524), (2503, 3145), (2504, 2536), (2504, 3145), (2505, 3145), (2506, 2524), (2506, 3145), (2507, 2524), (2507, 3145), (2508, 2487), (2508, 2509), (2508, 2526), (2508, 2528), (2508, 2529), (2508, 2560), (2508, 3145), (2509, 2528), (2509, 2529), (2509, 2530), (2509, 3145), (2510, 2524), (2510, 3145), (2511, 2524), (2511, 3145), (2512, 2524), (2512, 3145), (2513, 2524), (2513, 3145), (2514, 2524), (2514, 3145), (2515, 2524), (2515, 3145), (2516, 2524), (2516, 3145), (2517, 2524), (2517, 3145), (2518, 2524), (2518, 3145), (2519, 2524), (2519, 3145), (2520, 2524), (2520, 3145), (2521, 2524), (2521, 3145), (2522, 2524), (2522, 3145), (2523, 2524), (2523, 3145), (2524, 3145), (2525, 2524), (2525, 3145), (2526, 2524), (2526, 3145), (2527, 2524), (2527, 3145), (2528, 2524), (2528, 3145), (2529, 2524), (2529, 3145), (2530, 2524), (2530, 3145), (2531, 96), (2531, 3145), (2532, 3145), (2533, 2529), (2533, 3145), (2534, 2537), (2534, 3145), (2535, 2537), (2535, 3145), (2536, 3145), (2537, 3145), (2538, 3145), (2539, 2526), (2539, 3145), (2540, 2528), (2540, 3145), (2541, 3145), (2542, 599), (2542, 2482), (2542, 2493), (2542, 3145), (2543, 599), (2543, 953), (2543, 2482), (2543, 2547), (2543, 3145), (2544, 3145), (2545, 3143), (2545, 3144), (2545, 3145), (2546, 489), (2546, 2482), (2546, 2491), (2546, 2535), (2546, 2545), (2546, 3145), (2547, 442), (2547, 489), (2547, 540), (2547, 584), (2547, 619), (2547, 654), (2547, 949), (2547, 1026), (2547, 1039), (2547, 1049), (2547, 1360), (2547, 1650), (2547, 1869), (2547, 2088), (2547, 2186), (2547, 2217), (2547, 2336), (2547, 2504), (2547, 2508), (2547, 2534), (2547, 2535), (2547, 2537), (2547, 2538), (2547, 2539), (2547, 2540), (2547, 2555), (2547, 2563), (2547, 2568), (2547, 2648), (2547, 3001), (2547, 3007), (2547, 3010), (2547, 3070), (2547, 3083), (2547, 3143), (2547, 3145), (2548, 2482), (2548, 3145), (2549, 2799), (2549, 3145), (2550, 952), (2550, 2797), (2550, 3145), (2551, 22), (2551, 3145), (2552, 2542), (2552, 3145), (2553, 1873), (2553, 2495), (2553, 2543), (2553, 3145), (2554, 2548), (2554, 3145), (2555, 3145), (2556, 1873), (2556, 1877), (2556, 2496), (2556, 2799), (2556, 3145), (2557, 2468), (2557, 2501), (2557, 3145), (2558, 3145), (2559, 293), (2559, 949), (2559, 1087), (2559, 1983), (2559, 1986), (2559, 1989), (2559, 1990), (2559, 1992), (2559, 2799), (2559, 3145), (2560, 3143), (2560, 3144), (2560, 3145), (2561, 489), (2561, 2555), (2561, 2568), (2561, 3145), (2562, 2323), (2562, 3145), (2563, 66), (2563, 67), (2563, 71), (2563, 72), (2563, 434), (2563, 678), (2563, 752), (2563, 760), (2563, 949)]
noncomputable def edges43 : List (Nat × Nat) := [(2563, 1048), (2563, 1088), (2563, 2144), (2563, 2884), (2563, 3006), (2563, 3054), (2563, 3069), (2563, 3145), (2564, 436), (2564, 3083), (2564, 3145), (2565, 66), (2565, 436), (2565, 3145), (2566, 3143), (2566, 3144), (2566, 3145), (2567, 2562), (2567, 3145), (2568, 1878), (2568, 2497), (2568, 2799), (2568, 3145), (2569, 3143), (2569, 3144), (2569, 3145), (2570, 124), (2570, 212), (2570, 2298), (2570, 2479), (2570, 2491), (2570, 2505), (2570, 2539), (2570, 2546), (2570, 2547), (2570, 2549), (2570, 2565), (2570, 3083), (2570, 3145), (2571, 96), (2571, 158), (2571, 1501), (2571, 1677), (2571, 1739), (2571, 2174), (2571, 2571), (2571, 3145), (2572, 158), (2572, 1739), (2572, 2174), (2572, 2572), (2572, 3145), (2573, 158), (2573, 161), (2573, 1677), (2573, 1739), (2573, 1740), (2573, 2174), (2573, 2183), (2573, 2573), (2573, 3145), (2574, 158), (2574, 597), (2574, 1739), (2574, 2174), (2574, 2200), (2574, 2574), (2574, 3145), (2575, 86), (2575, 548), (2575, 876), (2575, 886), (2575, 924), (2575, 940), (2575, 1529), (2575, 1634), (2575, 1635), (2575, 1656), (2575, 1858), (2575, 2141), (2575, 2143), (2575, 2287), (2575, 3145), (2576, 86), (2576, 549), (2576, 876), (2576, 886), (2576, 924), (2576, 940), (2576, 1065), (2576, 1635), (2576, 1656), (2576, 1858), (2576, 2141), (2576, 2143), (2576, 2287), (2576, 3145), (2577, 3143), (2577, 3144), (2577, 3145), (2578, 3145), (2579, 3145), (2580, 3145), (2581, 147), (2581, 148), (2581, 149), (2581, 1743), (2581, 3145), (2582, 147), (2582, 148), (2582, 149), (2582, 1743), (2582, 3145), (2583, 887), (2583, 3145), (2584, 1656), (2584, 2799), (2584, 3145), (2585, 3145), (2586, 2606), (2586, 2607), (2586, 3145), (2587, 3145), (2588, 147), (2588, 148), (2588, 149), (2588, 3145), (2589, 1467), (2589, 1743), (2589, 2588), (2589, 3145), (2590, 147), (2590, 148), (2590, 149), (2590, 3145), (2591, 3145), (2592, 2604), (2592, 3145), (2593, 170), (2593, 700), (2593, 1420), (2593, 1421), (2593, 2595), (2593, 2603), (2593, 2799), (2593, 3031), (2593, 3145), (2594, 1833), (2594, 2601), (2594, 2799), (2594, 3145), (2595, 2592), (2595, 3145), (2596, 2594), (2596, 3145), (2597, 2592), (2597, 2594), (2597, 2598), (2597, 2799), (2597, 3145), (2598, 3145), (2599, 2602), (2599, 2605), (2599, 2799), (2599, 3145), (2600, 2599), (2600, 3145), (2601, 2605), (2601, 2799), (2601, 3145), (2602, 3145), (2603, 2741), (2603, 3145), (2604, 3145), (2605, 3145), (2606, 3145), (2607, 3145), (2608, 177), (2608, 181), (2608, 183), (2608, 184), (2608, 192), (2608, 1056), (2608, 1478), (2608, 2124), (2608, 2612), (2608, 2614), (2608, 3145), (2609, 180), (2609, 184), (2609, 192), (2609, 193), (2609, 1057), (2609, 1421), (2609, 1677), (2609, 2014), (2609, 2611), (2609, 2614), (2609, 3031), (2609, 3145), (2610, 181), (2610, 182), (2610, 192), (2610, 1056), (2610, 2612), (2610, 2614), (2610, 2799), (2610, 3145), (2611, 1395), (2611, 2014), (2611, 3145), (2612, 1396), (2612, 3145), (2613, 238), (2613, 492), (2613, 1955), (2613, 3145), (2614, 96), (2614, 3145), (2615, 3145), (2616, 3145), (2617, 3145), (2618, 3143), (2618, 3144), (2618, 3145), (2619, 1719), (2619, 3145), (2620, 3145), (2621, 3145), (2622, 946), (2622, 2620), (2622, 2799), (2622, 3145), (2623, 218), (2623, 3145), (2624, 3145), (2625, 2148), (2625, 3145), (2626, 946), (2626, 2799), (2626, 3145), (2627, 135), (2627, 160), (2627, 923), (2627, 949), (2627, 1421), (2627, 1430), (2627, 1464), (2627, 1465), (2627, 1689)]
noncomputable def edges44 : List (Nat × Nat) := [(2627, 1737), (2627, 1743), (2627, 1901), (2627, 2144), (2627, 2168), (2627, 2629), (2627, 2634), (2627, 2636), (2627, 2737), (2627, 2799), (2627, 2858), (2627, 2871), (2627, 2918), (2627, 2937), (2627, 2957), (2627, 3031), (2627, 3075), (2627, 3079), (2627, 3145), (2628, 923), (2628, 1421), (2628, 2637), (2628, 3031), (2628, 3145), (2629, 923), (2629, 1421), (2629, 2636), (2629, 3031), (2629, 3145), (2630, 923), (2630, 1421), (2630, 2637), (2630, 3031), (2630, 3145), (2631, 3143), (2631, 3144), (2631, 3145), (2632, 157), (2632, 923), (2632, 949), (2632, 1421), (2632, 1462), (2632, 1467), (2632, 1656), (2632, 1696), (2632, 1736), (2632, 1743), (2632, 1902), (2632, 2144), (2632, 2590), (2632, 2630), (2632, 2634), (2632, 2637), (2632, 2739), (2632, 2741), (2632, 2799), (2632, 2858), (2632, 2871), (2632, 2920), (2632, 2937), (2632, 2957), (2632, 3031), (2632, 3075), (2632, 3079), (2632, 3145), (2633, 1423), (2633, 1461), (2633, 2799), (2633, 3145), (2634, 3145), (2635, 104), (2635, 2799), (2635, 3145), (2636, 923), (2636, 1430), (2636, 1462), (2636, 1465), (2636, 1689), (2636, 1743), (2636, 1901), (2636, 2799), (2636, 3079), (2636, 3145), (2637, 923), (2637, 1462), (2637, 1465), (2637, 1467), (2637, 1696), (2637, 1902), (2637, 2590), (2637, 2799), (2637, 3145), (2638, 170), (2638, 2639), (2638, 3143), (2638, 3145), (2639, 147), (2639, 148), (2639, 2014), (2639, 2799), (2639, 3145), (2640, 678), (2640, 752), (2640, 756), (2640, 1720), (2640, 3145), (2641, 86), (2641, 1847), (2641, 2287), (2641, 2794), (2641, 3145), (2642, 86), (2642, 2287), (2642, 2444), (2642, 2643), (2642, 2789), (2642, 3145), (2643, 2645), (2643, 3145), (2644, 2443), (2644, 2642), (2644, 3145), (2645, 86), (2645, 170), (2645, 1335), (2645, 1421), (2645, 1788), (2645, 1799), (2645, 1805), (2645, 1806), (2645, 1822), (2645, 1847), (2645, 1878), (2645, 2123), (2645, 2144), (2645, 2145), (2645, 2287), (2645, 2679), (2645, 2799), (2645, 2803), (2645, 2858), (2645, 2929), (2645, 2937), (2645, 2957), (2645, 3031), (2645, 3108), (2645, 3125), (2645, 3145), (2646, 949), (2646, 1089), (2646, 1788), (2646, 1878), (2646, 2145), (2646, 2288), (2646, 2667), (2646, 2799), (2646, 3145), (2647, 86), (2647, 1421), (2647, 1460), (2647, 1684), (2647, 1783), (2647, 1847), (2647, 1878), (2647, 2019), (2647, 2145), (2647, 2287), (2647, 2339), (2647, 2799), (2647, 3031), (2647, 3145), (2648, 619), (2648, 744), (2648, 949), (2648, 1421), (2648, 2411), (2648, 3145), (2649, 439), (2649, 671), (2649, 881), (2649, 1067), (2649, 2408), (2649, 2650), (2649, 2651), (2649, 2652), (2649, 2653), (2649, 2761), (2649, 3145), (2650, 3145), (2651, 3145), (2652, 3145), (2653, 3145), (2654, 346), (2654, 949), (2654, 1914), (2654, 2144), (2654, 2192), (2654, 2193), (2654, 2194), (2654, 2196), (2654, 2340), (2654, 2346), (2654, 2838), (2654, 3145), (2655, 2219), (2655, 3145), (2656, 241), (2656, 612), (2656, 1421), (2656, 1828), (2656, 2737), (2656, 2799), (2656, 3031), (2656, 3145), (2657, 2658), (2657, 3145), (2658, 750), (2658, 760), (2658, 2799), (2658, 3145), (2659, 96), (2659, 750), (2659, 756), (2659, 760), (2659, 1869), (2659, 2009), (2659, 2635), (2659, 2658), (2659, 2799), (2659, 3145), (2660, 135), (2660, 592), (2660, 934), (2660, 2799), (2660, 3145), (2661, 949), (2661, 2438), (2661, 2662), (2661, 2678), (2661, 2789), (2661, 3145), (2662, 2664), (2662, 3145), (2663, 2438), (2663, 2661), (2663, 3145), (2664, 298), (2664, 300), (2664, 949), (2664, 1421)]
noncomputable def edges45 : List (Nat × Nat) := [(2664, 1799), (2664, 1873), (2664, 1875), (2664, 2019), (2664, 2079), (2664, 2144), (2664, 2447), (2664, 2679), (2664, 2782), (2664, 2784), (2664, 2799), (2664, 2803), (2664, 2858), (2664, 2930), (2664, 2937), (2664, 2957), (2664, 3031), (2664, 3126), (2664, 3145), (2665, 649), (2665, 949), (2665, 2824), (2665, 3145), (2666, 87), (2666, 572), (2666, 949), (2666, 1048), (2666, 1052), (2666, 1089), (2666, 1448), (2666, 1788), (2666, 2144), (2666, 2217), (2666, 2288), (2666, 2799), (2666, 3145), (2667, 87), (2667, 949), (2667, 1421), (2667, 1448), (2667, 1734), (2667, 2144), (2667, 2799), (2667, 3031), (2667, 3145), (2668, 3145), (2669, 3143), (2669, 3144), (2669, 3145), (2670, 1675), (2670, 3145), (2671, 949), (2671, 3145), (2672, 1869), (2672, 2669), (2672, 3145), (2673, 3145), (2674, 2197), (2674, 3145), (2675, 2198), (2675, 3145), (2676, 3145), (2677, 3145), (2678, 3145), (2679, 3145), (2680, 3145), (2681, 3145), (2682, 295), (2682, 299), (2682, 304), (2682, 572), (2682, 949), (2682, 1799), (2682, 1907), (2682, 2077), (2682, 2124), (2682, 2217), (2682, 2799), (2682, 3145), (2683, 3145), (2684, 3145), (2685, 3145), (2686, 2684), (2686, 3145), (2687, 157), (2687, 393), (2687, 411), (2687, 413), (2687, 492), (2687, 738), (2687, 794), (2687, 887), (2687, 949), (2687, 1467), (2687, 1468), (2687, 1609), (2687, 1611), (2687, 1613), (2687, 1642), (2687, 1646), (2687, 1697), (2687, 1736), (2687, 1742), (2687, 1743), (2687, 1744), (2687, 1761), (2687, 1762), (2687, 1763), (2687, 1769), (2687, 1770), (2687, 1771), (2687, 1831), (2687, 1834), (2687, 2144), (2687, 2164), (2687, 2580), (2687, 2581), (2687, 2609), (2687, 2615), (2687, 2616), (2687, 2617), (2687, 2688), (2687, 2739), (2687, 2789), (2687, 2799), (2687, 2858), (2687, 2871), (2687, 2888), (2687, 2902), (2687, 2925), (2687, 2937), (2687, 2957), (2687, 3075), (2687, 3145), (2688, 1421), (2688, 1462), (2688, 1465), (2688, 2799), (2688, 3031), (2688, 3145), (2689, 2799), (2689, 3145), (2690, 90), (2690, 91), (2690, 93), (2690, 949), (2690, 1467), (2690, 1703), (2690, 2402), (2690, 2687), (2690, 2689), (2690, 2691), (2690, 2789), (2690, 2799), (2690, 3145), (2691, 1421), (2691, 2094), (2691, 3031), (2691, 3145), (2692, 81), (2692, 949), (2692, 2693), (2692, 3071), (2692, 3131), (2692, 3145), (2693, 3143), (2693, 3144), (2693, 3145), (2694, 197), (2694, 312), (2694, 1869), (2694, 2695), (2694, 3145), (2695, 3143), (2695, 3144), (2695, 3145), (2696, 197), (2696, 312), (2696, 2697), (2696, 3145), (2697, 3143), (2697, 3144), (2697, 3145), (2698, 197), (2698, 312), (2698, 1869), (2698, 2699), (2698, 3145), (2699, 3143), (2699, 3144), (2699, 3145), (2700, 2121), (2700, 3145), (2701, 2122), (2701, 3145), (2702, 649), (2702, 3145), (2703, 2439), (2703, 3145), (2704, 2439), (2704, 3145), (2705, 2439), (2705, 3145), (2706, 2439), (2706, 3145), (2707, 2444), (2707, 3145), (2708, 1353), (2708, 3145), (2709, 1354), (2709, 3145), (2710, 2121), (2710, 3145), (2711, 2122), (2711, 3145), (2712, 3145), (2713, 377), (2713, 3145), (2714, 2799), (2714, 3145), (2715, 132), (2715, 1429), (2715, 1625), (2715, 1677), (2715, 3031), (2715, 3145), (2716, 649), (2716, 1001), (2716, 1421), (2716, 2180), (2716, 2719), (2716, 2720), (2716, 3031), (2716, 3096), (2716, 3145), (2717, 1001), (2717, 1421), (2717, 2719), (2717, 2799), (2717, 3031), (2717, 3145), (2718, 1421), (2718, 3031), (2718, 3145), (2719, 2852), (2719, 3145), (2720, 3145), (2721, 3145), (2722, 949), (2722, 998)]
noncomputable def edges46 : List (Nat × Nat) := [(2722, 1421), (2722, 1423), (2722, 2159), (2722, 2720), (2722, 2723), (2722, 2724), (2722, 2725), (2722, 2735), (2722, 2789), (2722, 2799), (2722, 2852), (2722, 3031), (2722, 3145), (2723, 3145), (2724, 949), (2724, 1855), (2724, 2144), (2724, 2342), (2724, 3108), (2724, 3145), (2725, 2838), (2725, 3145), (2726, 949), (2726, 998), (2726, 1421), (2726, 2159), (2726, 2720), (2726, 2736), (2726, 2799), (2726, 3031), (2726, 3145), (2727, 949), (2727, 2718), (2727, 3145), (2728, 942), (2728, 949), (2728, 3145), (2729, 2291), (2729, 3145), (2730, 949), (2730, 2731), (2730, 3143), (2730, 3145), (2731, 3145), (2732, 942), (2732, 949), (2732, 3145), (2733, 949), (2733, 3145), (2734, 2717), (2734, 3145), (2735, 1421), (2735, 3031), (2735, 3145), (2736, 1421), (2736, 2799), (2736, 3031), (2736, 3145), (2737, 1435), (2737, 2738), (2737, 2749), (2737, 3145), (2738, 619), (2738, 1716), (2738, 2475), (2738, 3145), (2739, 2740), (2739, 3145), (2740, 1472), (2740, 1733), (2740, 3145), (2741, 1436), (2741, 2742), (2741, 2749), (2741, 3145), (2742, 1791), (2742, 3145), (2743, 2746), (2743, 3145), (2744, 2745), (2744, 3145), (2745, 1472), (2745, 2799), (2745, 3145), (2746, 134), (2746, 135), (2746, 1472), (2746, 3145), (2747, 2748), (2747, 2749), (2747, 3145), (2748, 1716), (2748, 2475), (2748, 2754), (2748, 2799), (2748, 3145), (2749, 2799), (2749, 3145), (2750, 3145), (2751, 3143), (2751, 3144), (2751, 3145), (2752, 3143), (2752, 3144), (2752, 3145), (2753, 2754), (2753, 3145), (2754, 1472), (2754, 2799), (2754, 3145), (2755, 1435), (2755, 2758), (2755, 3145), (2756, 135), (2756, 2742), (2756, 2755), (2756, 2757), (2756, 2799), (2756, 3145), (2757, 3145), (2758, 1716), (2758, 2475), (2758, 3145), (2759, 2322), (2759, 2760), (2759, 2789), (2759, 3145), (2760, 2799), (2760, 3145), (2761, 819), (2761, 2750), (2761, 2762), (2761, 2789), (2761, 3145), (2762, 1421), (2762, 2750), (2762, 3031), (2762, 3145), (2763, 2764), (2763, 3145), (2764, 1472), (2764, 1716), (2764, 2475), (2764, 2799), (2764, 3145), (2765, 2766), (2765, 3145), (2766, 1716), (2766, 2475), (2766, 2799), (2766, 3145), (2767, 96), (2767, 156), (2767, 396), (2767, 1710), (2767, 1716), (2767, 1791), (2767, 1869), (2767, 1896), (2767, 2201), (2767, 2768), (2767, 3145), (2768, 145), (2768, 3088), (2768, 3145), (2769, 619), (2769, 3145), (2770, 3145), (2771, 328), (2771, 3145), (2772, 391), (2772, 986), (2772, 3145), (2773, 986), (2773, 2478), (2773, 3145), (2774, 986), (2774, 3049), (2774, 3145), (2775, 2363), (2775, 3145), (2776, 949), (2776, 1741), (2776, 3145), (2777, 390), (2777, 949), (2777, 1741), (2777, 3145), (2778, 1907), (2778, 2358), (2778, 3145), (2779, 949), (2779, 2502), (2779, 2567), (2779, 3145), (2780, 86), (2780, 949), (2780, 1907), (2780, 2287), (2780, 2358), (2780, 2363), (2780, 2550), (2780, 2642), (2780, 2661), (2780, 3145), (2781, 3145), (2782, 168), (2782, 1799), (2782, 2783), (2782, 3145), (2783, 102), (2783, 2799), (2783, 2858), (2783, 2927), (2783, 2937), (2783, 2957), (2783, 3145), (2784, 299), (2784, 3145), (2785, 2783), (2785, 3145), (2786, 162), (2786, 358), (2786, 772), (2786, 774), (2786, 886), (2786, 1089), (2786, 1335), (2786, 1421), (2786, 1799), (2786, 1805), (2786, 1806), (2786, 1822), (2786, 1873), (2786, 1875), (2786, 1899), (2786, 2301), (2786, 2405), (2786, 2411), (2786, 2787), (2786, 2807), (2786, 3031), (2786, 3070), (2786, 3145), (2787, 479), (2787, 774), (2787, 1335), (2787, 1421), (2787, 3031), (2787, 3145)]
noncomputable def edges47 : List (Nat × Nat) := [(2788, 649), (2788, 3145), (2789, 3143), (2789, 3144), (2789, 3145), (2790, 3143), (2790, 3144), (2790, 3145), (2791, 3145), (2792, 3145), (2793, 2791), (2793, 2792), (2793, 2799), (2793, 3145), (2794, 358), (2794, 1421), (2794, 1788), (2794, 1848), (2794, 1873), (2794, 1874), (2794, 3031), (2794, 3145), (2795, 2799), (2795, 3145), (2796, 3143), (2796, 3144), (2796, 3145), (2797, 3143), (2797, 3144), (2797, 3145), (2798, 3143), (2798, 3145), (2799, 655), (2799, 2789), (2799, 2800), (2799, 3145), (2800, 2107), (2800, 3145), (2801, 441), (2801, 1421), (2801, 1799), (2801, 2806), (2801, 3031), (2801, 3145), (2802, 441), (2802, 1421), (2802, 1799), (2802, 3031), (2802, 3145), (2803, 3145), (2804, 1680), (2804, 3145), (2805, 702), (2805, 703), (2805, 3145), (2806, 949), (2806, 998), (2806, 1025), (2806, 1799), (2806, 2293), (2806, 2813), (2806, 3145), (2807, 1421), (2807, 2852), (2807, 3031), (2807, 3145), (2808, 3143), (2808, 3144), (2808, 3145), (2809, 949), (2809, 3145), (2810, 949), (2810, 1799), (2810, 3145), (2811, 949), (2811, 2808), (2811, 3145), (2812, 203), (2812, 592), (2812, 3145), (2813, 1423), (2813, 3145), (2814, 1421), (2814, 2825), (2814, 3145), (2815, 86), (2815, 346), (2815, 949), (2815, 2144), (2815, 2287), (2815, 2799), (2815, 2814), (2815, 2822), (2815, 2825), (2815, 2827), (2815, 2836), (2815, 2839), (2815, 2842), (2815, 2848), (2815, 2852), (2815, 3103), (2815, 3145), (2816, 168), (2816, 1799), (2816, 2789), (2816, 2814), (2816, 2817), (2816, 3145), (2817, 2828), (2817, 3145), (2818, 649), (2818, 949), (2818, 1799), (2818, 2789), (2818, 2814), (2818, 2819), (2818, 2825), (2818, 2827), (2818, 3145), (2819, 2828), (2819, 3145), (2820, 949), (2820, 1421), (2820, 2789), (2820, 2799), (2820, 2812), (2820, 2814), (2820, 2815), (2820, 2816), (2820, 2821), (2820, 2822), (2820, 2825), (2820, 2827), (2820, 2835), (2820, 2850), (2820, 3031), (2820, 3103), (2820, 3145), (2821, 2828), (2821, 3031), (2821, 3145), (2822, 168), (2822, 2825), (2822, 3145), (2823, 2820), (2823, 3145), (2824, 1421), (2824, 2812), (2824, 2814), (2824, 2816), (2824, 2825), (2824, 2827), (2824, 2835), (2824, 3031), (2824, 3145), (2825, 2826), (2825, 3145), (2826, 3145), (2827, 2825), (2827, 3031), (2827, 3145), (2828, 168), (2828, 203), (2828, 949), (2828, 1421), (2828, 2144), (2828, 2158), (2828, 2166), (2828, 2180), (2828, 2716), (2828, 2720), (2828, 2799), (2828, 2825), (2828, 2827), (2828, 2829), (2828, 2830), (2828, 2842), (2828, 2843), (2828, 2848), (2828, 3031), (2828, 3143), (2828, 3145), (2829, 3145), (2830, 168), (2830, 171), (2830, 203), (2830, 2825), (2830, 2840), (2830, 2844), (2830, 2849), (2830, 3145), (2831, 3145), (2832, 3143), (2832, 3144), (2832, 3145), (2833, 3143), (2833, 3144), (2833, 3145), (2834, 3143), (2834, 3144), (2834, 3145), (2835, 335), (2835, 1421), (2835, 3022), (2835, 3031), (2835, 3145), (2836, 171), (2836, 1810), (2836, 2799), (2836, 2845), (2836, 2849), (2836, 3145), (2837, 168), (2837, 203), (2837, 2799), (2837, 2814), (2837, 2827), (2837, 2841), (2837, 2847), (2837, 2849), (2837, 2851), (2837, 2852), (2837, 3145), (2838, 203), (2838, 949), (2838, 1799), (2838, 2144), (2838, 2837), (2838, 2842), (2838, 2843), (2838, 2847), (2838, 2848), (2838, 2852), (2838, 3145), (2839, 168), (2839, 949), (2839, 2799), (2839, 2814), (2839, 2827), (2839, 2830), (2839, 2847), (2839, 3145), (2840, 168), (2840, 2799), (2840, 2844), (2840, 2849), (2840, 3145), (2841, 2844), (2841, 3145), (2842, 1421)]
noncomputable def edges48 : List (Nat × Nat) := [(2842, 3145), (2843, 168), (2843, 203), (2843, 2799), (2843, 2814), (2843, 2827), (2843, 2828), (2843, 2830), (2843, 2847), (2843, 3145), (2844, 203), (2844, 2831), (2844, 3145), (2845, 203), (2845, 2831), (2845, 3145), (2846, 170), (2846, 2836), (2846, 2847), (2846, 3145), (2847, 3145), (2848, 3031), (2848, 3145), (2849, 171), (2849, 3145), (2850, 3145), (2851, 168), (2851, 2799), (2851, 2831), (2851, 3145), (2852, 3145), (2853, 3145), (2854, 3145), (2855, 86), (2855, 96), (2855, 135), (2855, 550), (2855, 876), (2855, 886), (2855, 924), (2855, 940), (2855, 1635), (2855, 1859), (2855, 2141), (2855, 2143), (2855, 2287), (2855, 3145), (2856, 3145), (2857, 3145), (2858, 2859), (2858, 2888), (2858, 3145), (2859, 86), (2859, 1427), (2859, 2287), (2859, 3145), (2860, 86), (2860, 721), (2860, 722), (2860, 982), (2860, 1421), (2860, 2157), (2860, 2287), (2860, 2438), (2860, 2443), (2860, 2444), (2860, 2789), (2860, 2858), (2860, 2861), (2860, 2863), (2860, 2864), (2860, 2865), (2860, 2866), (2860, 2867), (2860, 2870), (2860, 2882), (2860, 2886), (2860, 2896), (2860, 2917), (2860, 2949), (2860, 2950), (2860, 2956), (2860, 2957), (2860, 2960), (2860, 2962), (2860, 2969), (2860, 2973), (2860, 2978), (2860, 2981), (2860, 2985), (2860, 2987), (2860, 2990), (2860, 2994), (2860, 3031), (2860, 3042), (2860, 3145), (2861, 2789), (2861, 2862), (2861, 2960), (2861, 2962), (2861, 3145), (2862, 298), (2862, 300), (2862, 949), (2862, 2217), (2862, 2300), (2862, 2682), (2862, 2968), (2862, 3145), (2863, 2858), (2863, 2944), (2863, 2957), (2863, 2962), (2863, 2987), (2863, 2996), (2863, 3145), (2864, 1421), (2864, 3031), (2864, 3145), (2865, 1421), (2865, 1907), (2865, 2878), (2865, 3031), (2865, 3145), (2866, 1421), (2866, 3031), (2866, 3145), (2867, 1421), (2867, 2741), (2867, 2799), (2867, 2879), (2867, 3031), (2867, 3145), (2868, 1840), (2868, 2869), (2868, 3145), (2869, 2860), (2869, 2888), (2869, 3105), (2869, 3145), (2870, 3104), (2870, 3106), (2870, 3145), (2871, 3145), (2872, 3145), (2873, 3145), (2874, 3145), (2875, 3145), (2876, 2799), (2876, 3145), (2877, 3145), (2878, 168), (2878, 2876), (2878, 2881), (2878, 3145), (2879, 3145), (2880, 3145), (2881, 3145), (2882, 2789), (2882, 2883), (2882, 3145), (2883, 1421), (2883, 2878), (2883, 3031), (2883, 3145), (2884, 1907), (2884, 2137), (2884, 2885), (2884, 2888), (2884, 3145), (2885, 441), (2885, 1799), (2885, 3145), (2886, 2801), (2886, 3145), (2887, 2799), (2887, 3145), (2888, 3145), (2889, 2944), (2889, 2987), (2889, 2989), (2889, 3145), (2890, 3145), (2891, 3145), (2892, 3145), (2893, 3145), (2894, 1832), (2894, 2799), (2894, 2888), (2894, 3145), (2895, 1423), (2895, 3145), (2896, 2889), (2896, 2935), (2896, 3145), (2897, 2889), (2897, 2935), (2897, 3145), (2898, 2889), (2898, 2935), (2898, 3145), (2899, 2889), (2899, 2935), (2899, 2940), (2899, 3145), (2900, 2889), (2900, 2935), (2900, 2940), (2900, 3145), (2901, 2144), (2901, 2799), (2901, 2889), (2901, 2935), (2901, 3145), (2902, 2144), (2902, 2889), (2902, 2935), (2902, 2940), (2902, 3145), (2903, 2144), (2903, 2799), (2903, 3145), (2904, 2889), (2904, 2935), (2904, 2940), (2904, 2941), (2904, 2961), (2904, 3145), (2905, 2889), (2905, 2938), (2905, 2961), (2905, 3145), (2906, 2889), (2906, 2938), (2906, 2944), (2906, 2958), (2906, 2962), (2906, 2987), (2906, 2994), (2906, 3145), (2907, 2889), (2907, 2935), (2907, 3145), (2908, 2889), (2908, 2935), (2908, 2940), (2908, 3145), (2909, 2912), (2909, 3145), (2910, 2912)]
noncomputable def edges49 : List (Nat × Nat) := [(2910, 3145), (2911, 949), (2911, 2144), (2911, 2889), (2911, 2935), (2911, 2959), (2911, 3145), (2912, 2889), (2912, 2935), (2912, 2940), (2912, 3145), (2913, 2889), (2913, 2934), (2913, 2935), (2913, 2959), (2913, 3145), (2914, 2144), (2914, 2889), (2914, 2935), (2914, 2940), (2914, 2959), (2914, 3145), (2915, 2144), (2915, 2889), (2915, 2935), (2915, 3145), (2916, 2889), (2916, 2934), (2916, 2935), (2916, 2940), (2916, 2959), (2916, 3145), (2917, 2889), (2917, 2935), (2917, 2940), (2917, 3145), (2918, 2887), (2918, 2889), (2918, 2892), (2918, 2935), (2918, 3145), (2919, 2887), (2919, 2889), (2919, 2892), (2919, 2935), (2919, 3145), (2920, 2889), (2920, 2892), (2920, 2935), (2920, 3145), (2921, 2889), (2921, 2935), (2921, 3145), (2922, 819), (2922, 2889), (2922, 2935), (2922, 3145), (2923, 2889), (2923, 2893), (2923, 2935), (2923, 2939), (2923, 3145), (2924, 2889), (2924, 2893), (2924, 2935), (2924, 2939), (2924, 3145), (2925, 2889), (2925, 2893), (2925, 2935), (2925, 3145), (2926, 2144), (2926, 2889), (2926, 2935), (2926, 2959), (2926, 3145), (2927, 2889), (2927, 2935), (2927, 2944), (2927, 2958), (2927, 2959), (2927, 2962), (2927, 2987), (2927, 2995), (2927, 3145), (2928, 2889), (2928, 2935), (2928, 3145), (2929, 2889), (2929, 2935), (2929, 3145), (2930, 2678), (2930, 2889), (2930, 2935), (2930, 2940), (2930, 2942), (2930, 3145), (2931, 2889), (2931, 2935), (2931, 2966), (2931, 2967), (2931, 3145), (2932, 2889), (2932, 2935), (2932, 2966), (2932, 2967), (2932, 3145), (2933, 2889), (2933, 2935), (2933, 2966), (2933, 3145), (2934, 2944), (2934, 2958), (2934, 2962), (2934, 2987), (2934, 2994), (2934, 3145), (2935, 2144), (2935, 2938), (2935, 2944), (2935, 2958), (2935, 2962), (2935, 2987), (2935, 2994), (2935, 2995), (2935, 3145), (2936, 3145), (2937, 3145), (2938, 3145), (2939, 2986), (2939, 3145), (2940, 2968), (2940, 3145), (2941, 2640), (2941, 2970), (2941, 3145), (2942, 2976), (2942, 3145), (2943, 2974), (2943, 3145), (2944, 949), (2944, 3145), (2945, 1677), (2945, 2953), (2945, 3145), (2946, 1658), (2946, 1666), (2946, 2945), (2946, 3145), (2947, 2955), (2947, 3145), (2948, 3145), (2949, 3145), (2950, 2134), (2950, 2873), (2950, 2875), (2950, 2970), (2950, 2988), (2950, 3042), (2950, 3145), (2951, 2952), (2951, 3145), (2952, 3145), (2953, 135), (2953, 2789), (2953, 2799), (2953, 2954), (2953, 3145), (2954, 1421), (2954, 2737), (2954, 2799), (2954, 3031), (2954, 3145), (2955, 2741), (2955, 3145), (2956, 2976), (2956, 3145), (2957, 2287), (2957, 3145), (2958, 2960), (2958, 3145), (2959, 3145), (2960, 2949), (2960, 3145), (2961, 3145), (2962, 3145), (2963, 3145), (2964, 170), (2964, 721), (2964, 1467), (2964, 1609), (2964, 1611), (2964, 1742), (2964, 1743), (2964, 1779), (2964, 2799), (2964, 2858), (2964, 2873), (2964, 2875), (2964, 2924), (2964, 2932), (2964, 2937), (2964, 2957), (2964, 2965), (2964, 2987), (2964, 2988), (2964, 2990), (2964, 3041), (2964, 3145), (2965, 2919), (2965, 3145), (2966, 1743), (2966, 3145), (2967, 1467), (2967, 3145), (2968, 290), (2968, 728), (2968, 919), (2968, 948), (2968, 949), (2968, 982), (2968, 1439), (2968, 1788), (2968, 2217), (2968, 2799), (2968, 2970), (2968, 3011), (2968, 3145), (2969, 561), (2969, 2947), (2969, 2987), (2969, 2990), (2969, 3042), (2969, 3145), (2970, 1869), (2970, 2946), (2970, 3145), (2971, 1840), (2971, 2799), (2971, 2888), (2971, 2972), (2971, 3145), (2972, 2858), (2972, 2888), (2972, 2937), (2972, 2950), (2972, 2957), (2972, 3105), (2972, 3145), (2973, 2131)]
noncomputable def edges50 : List (Nat × Nat) := [(2973, 2799), (2973, 2888), (2973, 3104), (2973, 3106), (2973, 3145), (2974, 2789), (2974, 2948), (2974, 2975), (2974, 3145), (2975, 2980), (2975, 3145), (2976, 2673), (2976, 2789), (2976, 2946), (2976, 2977), (2976, 3145), (2977, 2980), (2977, 3145), (2978, 2789), (2978, 2947), (2978, 2979), (2978, 3145), (2979, 1421), (2979, 2878), (2979, 3031), (2979, 3145), (2980, 1421), (2980, 2873), (2980, 2874), (2980, 2875), (2980, 2988), (2980, 3031), (2980, 3042), (2980, 3145), (2981, 2789), (2981, 2808), (2981, 2873), (2981, 2875), (2981, 2885), (2981, 2982), (2981, 2988), (2981, 3042), (2981, 3145), (2982, 1421), (2982, 2878), (2982, 3031), (2982, 3145), (2983, 168), (2983, 2789), (2983, 2799), (2983, 2984), (2983, 3145), (2984, 1421), (2984, 2878), (2984, 3031), (2984, 3145), (2985, 563), (2985, 2947), (2985, 2987), (2985, 2990), (2985, 3041), (2985, 3145), (2986, 1869), (2986, 2946), (2986, 3145), (2987, 949), (2987, 3145), (2988, 2872), (2988, 2992), (2988, 3145), (2989, 2873), (2989, 2875), (2989, 2885), (2989, 2988), (2989, 3145), (2990, 2789), (2990, 2991), (2990, 3145), (2991, 1421), (2991, 2878), (2991, 3031), (2991, 3145), (2992, 2789), (2992, 2873), (2992, 2875), (2992, 2877), (2992, 2885), (2992, 2993), (2992, 3145), (2993, 1421), (2993, 2737), (2993, 2799), (2993, 2878), (2993, 3031), (2993, 3145), (2994, 2799), (2994, 2989), (2994, 3145), (2995, 2799), (2995, 2989), (2995, 3145), (2996, 2144), (2996, 2217), (2996, 2799), (2996, 2958), (2996, 2995), (2996, 3145), (2997, 2858), (2997, 2889), (2997, 2935), (2997, 2937), (2997, 2940), (2997, 2942), (2997, 2943), (2997, 2957), (2997, 3145), (2998, 2858), (2998, 2889), (2998, 2935), (2998, 2937), (2998, 2940), (2998, 2942), (2998, 2957), (2998, 3145), (2999, 2858), (2999, 2889), (2999, 2935), (2999, 2937), (2999, 2940), (2999, 2942), (2999, 2957), (2999, 3145), (3000, 2858), (3000, 2889), (3000, 2935), (3000, 2937), (3000, 2940), (3000, 2957), (3000, 3145), (3001, 3145), (3002, 3145), (3003, 287), (3003, 325), (3003, 750), (3003, 1039), (3003, 1048), (3003, 1337), (3003, 1338), (3003, 1339), (3003, 1340), (3003, 1342), (3003, 1829), (3003, 2086), (3003, 2091), (3003, 2092), (3003, 2488), (3003, 2619), (3003, 3004), (3003, 3051), (3003, 3055), (3003, 3057), (3003, 3058), (3003, 3143), (3003, 3145), (3004, 3145), (3005, 3145), (3006, 594), (3006, 1337), (3006, 1340), (3006, 1342), (3006, 1829), (3006, 3051), (3006, 3055), (3006, 3057), (3006, 3058), (3006, 3145), (3007, 3145), (3008, 721), (3008, 949), (3008, 1026), (3008, 1039), (3008, 3001), (3008, 3009), (3008, 3145), (3009, 949), (3009, 1026), (3009, 1373), (3009, 2099), (3009, 2217), (3009, 3001), (3009, 3143), (3009, 3145), (3010, 3145), (3011, 3145), (3012, 3145), (3013, 134), (3013, 1058), (3013, 1480), (3013, 1914), (3013, 1916), (3013, 2579), (3013, 2580), (3013, 2586), (3013, 2587), (3013, 2597), (3013, 3145), (3014, 86), (3014, 538), (3014, 1011), (3014, 1012), (3014, 1013), (3014, 2217), (3014, 2287), (3014, 3143), (3014, 3145), (3015, 949), (3015, 1907), (3015, 2144), (3015, 2799), (3015, 3014), (3015, 3145), (3016, 1395), (3016, 3124), (3016, 3145), (3017, 194), (3017, 245), (3017, 346), (3017, 950), (3017, 3145), (3018, 104), (3018, 934), (3018, 949), (3018, 2144), (3018, 2327), (3018, 2799), (3018, 2856), (3018, 3113), (3018, 3145), (3019, 104), (3019, 134), (3019, 934), (3019, 2214), (3019, 3145), (3020, 104), (3020, 934), (3020, 2214), (3020, 3021), (3020, 3145), (3021, 3145), (3022, 248)]
noncomputable def edges51 : List (Nat × Nat) := [(3022, 1656), (3022, 3145), (3023, 248), (3023, 310), (3023, 1677), (3023, 3145), (3024, 158), (3024, 161), (3024, 248), (3024, 315), (3024, 1677), (3024, 1739), (3024, 1740), (3024, 2174), (3024, 2183), (3024, 2573), (3024, 3145), (3025, 96), (3025, 254), (3025, 256), (3025, 632), (3025, 638), (3025, 1348), (3025, 1666), (3025, 1670), (3025, 1672), (3025, 1866), (3025, 2327), (3025, 2669), (3025, 2856), (3025, 3025), (3025, 3145), (3026, 89), (3026, 3027), (3026, 3145), (3027, 2032), (3027, 2296), (3027, 2297), (3027, 2325), (3027, 2327), (3027, 2799), (3027, 2856), (3027, 3027), (3027, 3145), (3028, 203), (3028, 2814), (3028, 2825), (3028, 2827), (3028, 3145), (3029, 2500), (3029, 2562), (3029, 3145), (3030, 377), (3030, 3145), (3031, 3035), (3031, 3145), (3032, 441), (3032, 949), (3032, 1387), (3032, 1446), (3032, 1796), (3032, 2799), (3032, 3033), (3032, 3145), (3033, 348), (3033, 949), (3033, 1444), (3033, 1788), (3033, 1794), (3033, 1797), (3033, 2442), (3033, 3145), (3034, 214), (3034, 552), (3034, 949), (3034, 2789), (3034, 3145), (3035, 3032), (3035, 3145), (3036, 3145), (3037, 949), (3037, 3038), (3037, 3145), (3038, 949), (3038, 2298), (3038, 2501), (3038, 3145), (3039, 3145), (3040, 2799), (3040, 3145), (3041, 3145), (3042, 3145), (3043, 1996), (3043, 1998), (3043, 3145), (3044, 1996), (3044, 3043), (3044, 3145), (3045, 365), (3045, 2799), (3045, 3044), (3045, 3145), (3046, 1999), (3046, 2000), (3046, 3145), (3047, 1999), (3047, 3046), (3047, 3145), (3048, 365), (3048, 2799), (3048, 3047), (3048, 3145), (3049, 162), (3049, 445), (3049, 3145), (3050, 3143), (3050, 3144), (3050, 3145), (3051, 318), (3051, 326), (3051, 1048), (3051, 3145), (3052, 1048), (3052, 2799), (3052, 3145), (3053, 3054), (3053, 3145), (3054, 678), (3054, 752), (3054, 769), (3054, 949), (3054, 2799), (3054, 3005), (3054, 3056), (3054, 3145), (3055, 135), (3055, 678), (3055, 752), (3055, 760), (3055, 762), (3055, 1048), (3055, 2799), (3055, 3005), (3055, 3052), (3055, 3056), (3055, 3145), (3056, 678), (3056, 750), (3056, 760), (3056, 762), (3056, 1048), (3056, 1049), (3056, 2799), (3056, 3052), (3056, 3145), (3057, 750), (3057, 3145), (3058, 3145), (3059, 86), (3059, 135), (3059, 1898), (3059, 2287), (3059, 3034), (3059, 3145), (3060, 949), (3060, 999), (3060, 1421), (3060, 1423), (3060, 2644), (3060, 2663), (3060, 2799), (3060, 3031), (3060, 3145), (3061, 1780), (3061, 3064), (3061, 3145), (3062, 49), (3062, 740), (3062, 1421), (3062, 2799), (3062, 3031), (3062, 3145), (3063, 3061), (3063, 3145), (3064, 109), (3064, 1421), (3064, 1838), (3064, 2799), (3064, 3031), (3064, 3145), (3065, 592), (3065, 3061), (3065, 3145), (3066, 3145), (3067, 96), (3067, 3068), (3067, 3145), (3068, 104), (3068, 545), (3068, 934), (3068, 1743), (3068, 1782), (3068, 2214), (3068, 3134), (3068, 3135), (3068, 3136), (3068, 3145), (3069, 3145), (3070, 3143), (3070, 3144), (3070, 3145), (3071, 3070), (3071, 3145), (3072, 3145), (3073, 3145), (3074, 3145), (3075, 3145), (3076, 3145), (3077, 3145), (3078, 3145), (3079, 3145), (3080, 3145), (3081, 3145), (3082, 3145), (3083, 2537), (3083, 3145), (3084, 96), (3084, 1037), (3084, 3145), (3085, 96), (3085, 3145), (3086, 3087), (3086, 3143), (3086, 3145), (3087, 64), (3087, 65), (3087, 1037), (3087, 3145), (3088, 1869), (3088, 3084), (3088, 3085), (3088, 3086), (3088, 3145), (3089, 949), (3089, 2413), (3089, 3090), (3089, 3092), (3089, 3145), (3090, 3143), (3090, 3144)]
noncomputable def edges52 : List (Nat × Nat) := [(3090, 3145), (3091, 1421), (3091, 3031), (3091, 3145), (3092, 1421), (3092, 1716), (3092, 2475), (3092, 3031), (3092, 3145), (3093, 1423), (3093, 3090), (3093, 3145), (3094, 3145), (3095, 3145), (3096, 3145), (3097, 3145), (3098, 3145), (3099, 3145), (3100, 3145), (3101, 3145), (3102, 3145), (3103, 1808), (3103, 3108), (3103, 3145), (3104, 1421), (3104, 2157), (3104, 2175), (3104, 3031), (3104, 3145), (3105, 1421), (3105, 1799), (3105, 2157), (3105, 2175), (3105, 2823), (3105, 2824), (3105, 3031), (3105, 3145), (3106, 1421), (3106, 2157), (3106, 2175), (3106, 3031), (3106, 3145), (3107, 3145), (3108, 86), (3108, 1421), (3108, 2020), (3108, 2287), (3108, 2647), (3108, 2799), (3108, 3031), (3108, 3145), (3109, 2144), (3109, 2217), (3109, 3145), (3110, 3145), (3111, 3145), (3112, 3115), (3112, 3145), (3113, 3115), (3113, 3145), (3114, 2799), (3114, 3145), (3115, 949), (3115, 2144), (3115, 2789), (3115, 3110), (3115, 3116), (3115, 3145), (3116, 949), (3116, 2144), (3116, 3117), (3116, 3145), (3117, 676), (3117, 897), (3117, 1611), (3117, 1612), (3117, 1743), (3117, 1762), (3117, 1955), (3117, 2486), (3117, 2579), (3117, 3013), (3117, 3114), (3117, 3145), (3118, 248), (3118, 3145), (3119, 248), (3119, 3145), (3120, 949), (3120, 1789), (3120, 2145), (3120, 2789), (3120, 3121), (3120, 3122), (3120, 3145), (3121, 2799), (3121, 3145), (3122, 1788), (3122, 2799), (3122, 3145), (3123, 2799), (3123, 3145), (3124, 2799), (3124, 3145), (3125, 3145), (3126, 3145), (3127, 1869), (3127, 3128), (3127, 3143), (3127, 3145), (3128, 3143), (3128, 3144), (3128, 3145), (3129, 3130), (3129, 3145), (3130, 949), (3130, 3127), (3130, 3145), (3131, 3145), (3132, 1750), (3132, 2799), (3132, 3145), (3133, 96), (3133, 934), (3133, 1743), (3133, 2214), (3133, 2583), (3133, 2799), (3133, 3132), (3133, 3145), (3134, 238), (3134, 1743), (3134, 1749), (3134, 3145), (3135, 3136), (3135, 3145), (3136, 238), (3136, 1749), (3136, 3145), (3137, 170), (3137, 297), (3137, 300), (3137, 949), (3137, 1652), (3137, 2741), (3137, 3145), (3138, 701), (3138, 1423), (3138, 3145), (3139, 700), (3139, 1421), (3139, 3031), (3139, 3145), (3140, 2144), (3140, 2789), (3140, 2799), (3140, 3141), (3140, 3145), (3141, 3139), (3141, 3145), (3142, 699), (3142, 1421), (3142, 2144), (3142, 2799), (3142, 3031), (3142, 3145), (3143, 1), (3143, 2), (3143, 22), (3143, 25), (3143, 26), (3143, 31), (3143, 38), (3143, 41), (3143, 43), (3143, 44), (3143, 50), (3143, 51), (3143, 54), (3143, 59), (3143, 66), (3143, 67), (3143, 68), (3143, 69), (3143, 70), (3143, 71), (3143, 72), (3143, 79), (3143, 125), (3143, 141), (3143, 143), (3143, 162), (3143, 172), (3143, 173), (3143, 174), (3143, 209), (3143, 214), (3143, 244), (3143, 246), (3143, 288), (3143, 291), (3143, 301), (3143, 302), (3143, 303), (3143, 313), (3143, 324), (3143, 328), (3143, 332), (3143, 338), (3143, 339), (3143, 340), (3143, 343), (3143, 344), (3143, 352), (3143, 353), (3143, 359), (3143, 394), (3143, 395), (3143, 399), (3143, 416), (3143, 420), (3143, 428), (3143, 430), (3143, 447), (3143, 451), (3143, 452), (3143, 453), (3143, 454), (3143, 456), (3143, 483), (3143, 486), (3143, 539), (3143, 543), (3143, 571), (3143, 576), (3143, 600), (3143, 603), (3143, 605), (3143, 606), (3143, 607), (3143, 608), (3143, 609), (3143, 622), (3143, 623), (3143, 624), (3143, 625), (3143, 626), (3143, 650), (3143, 652), (3143, 653)]
noncomputable def edges53 : List (Nat × Nat) := [(3143, 656), (3143, 668), (3143, 672), (3143, 685), (3143, 708), (3143, 723), (3143, 730), (3143, 734), (3143, 737), (3143, 739), (3143, 743), (3143, 768), (3143, 784), (3143, 785), (3143, 791), (3143, 792), (3143, 809), (3143, 814), (3143, 846), (3143, 847), (3143, 848), (3143, 849), (3143, 851), (3143, 853), (3143, 854), (3143, 855), (3143, 856), (3143, 857), (3143, 858), (3143, 859), (3143, 868), (3143, 869), (3143, 870), (3143, 872), (3143, 877), (3143, 878), (3143, 879), (3143, 880), (3143, 936), (3143, 947), (3143, 956), (3143, 957), (3143, 992), (3143, 993), (3143, 1002), (3143, 1004), (3143, 1008), (3143, 1009), (3143, 1016), (3143, 1017), (3143, 1018), (3143, 1020), (3143, 1021), (3143, 1022), (3143, 1023), (3143, 1024), (3143, 1025), (3143, 1030), (3143, 1032), (3143, 1041), (3143, 1043), (3143, 1073), (3143, 1093), (3143, 1195), (3143, 1222), (3143, 1267), (3143, 1268), (3143, 1269), (3143, 1270), (3143, 1271), (3143, 1272), (3143, 1273), (3143, 1274), (3143, 1275), (3143, 1276), (3143, 1277), (3143, 1278), (3143, 1279), (3143, 1280), (3143, 1281), (3143, 1282), (3143, 1283), (3143, 1284), (3143, 1285), (3143, 1286), (3143, 1287), (3143, 1288), (3143, 1289), (3143, 1290), (3143, 1291), (3143, 1292), (3143, 1293), (3143, 1294), (3143, 1295), (3143, 1296), (3143, 1297), (3143, 1298), (3143, 1299), (3143, 1300), (3143, 1301), (3143, 1302), (3143, 1303), (3143, 1304), (3143, 1305), (3143, 1306), (3143, 1307), (3143, 1308), (3143, 1309), (3143, 1310), (3143, 1311), (3143, 1312), (3143, 1313), (3143, 1314), (3143, 1315), (3143, 1316), (3143, 1317), (3143, 1318), (3143, 1319), (3143, 1320), (3143, 1321), (3143, 1322), (3143, 1323), (3143, 1324), (3143, 1325), (3143, 1326), (3143, 1327), (3143, 1328), (3143, 1329), (3143, 1330), (3143, 1331), (3143, 1332), (3143, 1336), (3143, 1377), (3143, 1379), (3143, 1442), (3143, 1457), (3143, 1474), (3143, 1475), (3143, 1476), (3143, 1495), (3143, 1497), (3143, 1499), (3143, 1503), (3143, 1504), (3143, 1505), (3143, 1506), (3143, 1507), (3143, 1508), (3143, 1509), (3143, 1510), (3143, 1511), (3143, 1512), (3143, 1513), (3143, 1514), (3143, 1515), (3143, 1516), (3143, 1517), (3143, 1518), (3143, 1519), (3143, 1520), (3143, 1521), (3143, 1522), (3143, 1523), (3143, 1524), (3143, 1525), (3143, 1526), (3143, 1527), (3143, 1532), (3143, 1533), (3143, 1534), (3143, 1535), (3143, 1536), (3143, 1537), (3143, 1538), (3143, 1539), (3143, 1540), (3143, 1541), (3143, 1542), (3143, 1543), (3143, 1544), (3143, 1545), (3143, 1546), (3143, 1547), (3143, 1548), (3143, 1549), (3143, 1550), (3143, 1551), (3143, 1552), (3143, 1553), (3143, 1554), (3143, 1555), (3143, 1556), (3143, 1557), (3143, 1559), (3143, 1560), (3143, 1561), (3143, 1562), (3143, 1563), (3143, 1564), (3143, 1565), (3143, 1566), (3143, 1567), (3143, 1568), (3143, 1569), (3143, 1570), (3143, 1571), (3143, 1572), (3143, 1573), (3143, 1575), (3143, 1576), (3143, 1593), (3143, 1595), (3143, 1600), (3143, 1601), (3143, 1617), (3143, 1619), (3143, 1679), (3143, 1687), (3143, 1692), (3143, 1698), (3143, 1717), (3143, 1775), (3143, 1783), (3143, 1784), (3143, 1792), (3143, 1809), (3143, 1812), (3143, 1813), (3143, 1816), (3143, 1837), (3143, 1839), (3143, 1841), (3143, 1844), (3143, 1846), (3143, 1851), (3143, 1854), (3143, 1864), (3143, 1907), (3143, 1910), (3143, 1924), (3143, 1931), (3143, 1934), (3143, 1935), (3143, 1936), (3143, 2002), (3143, 2003), (3143, 2015), (3143, 2044), (3143, 2049), (3143, 2064)]
noncomputable def edges54 : List (Nat × Nat) := [(3143, 2071), (3143, 2073), (3143, 2075), (3143, 2203), (3143, 2213), (3143, 2224), (3143, 2225), (3143, 2230), (3143, 2231), (3143, 2232), (3143, 2233), (3143, 2258), (3143, 2268), (3143, 2293), (3143, 2337), (3143, 2344), (3143, 2350), (3143, 2352), (3143, 2359), (3143, 2361), (3143, 2397), (3143, 2398), (3143, 2399), (3143, 2400), (3143, 2418), (3143, 2424), (3143, 2425), (3143, 2426), (3143, 2431), (3143, 2453), (3143, 2461), (3143, 2464), (3143, 2465), (3143, 2470), (3143, 2499), (3143, 2547), (3143, 2560), (3143, 2561), (3143, 2566), (3143, 2569), (3143, 2571), (3143, 2572), (3143, 2573), (3143, 2574), (3143, 2639), (3143, 2643), (3143, 2662), (3143, 2688), (3143, 2691), (3143, 2723), (3143, 2724), (3143, 2725), (3143, 2731), (3143, 2735), (3143, 2736), (3143, 2760), (3143, 2762), (3143, 2786), (3143, 2794), (3143, 2799), (3143, 2800), (3143, 2817), (3143, 2819), (3143, 2821), (3143, 2829), (3143, 2843), (3143, 2861), (3143, 2862), (3143, 2863), (3143, 2864), (3143, 2865), (3143, 2866), (3143, 2867), (3143, 2869), (3143, 2883), (3143, 2954), (3143, 2965), (3143, 2972), (3143, 2975), (3143, 2977), (3143, 2979), (3143, 2982), (3143, 2984), (3143, 2991), (3143, 2993), (3143, 3004), (3143, 3009), (3143, 3040), (3143, 3087), (3143, 3116), (3143, 3121), (3143, 3122), (3143, 3140), (3143, 3141), (3144, 81), (3144, 83), (3144, 106), (3144, 155), (3144, 162), (3144, 163), (3144, 164), (3144, 165), (3144, 172), (3144, 173), (3144, 206), (3144, 207), (3144, 208), (3144, 210), (3144, 211), (3144, 213), (3144, 237), (3144, 284), (3144, 285), (3144, 286), (3144, 324), (3144, 329), (3144, 330), (3144, 349), (3144, 350), (3144, 394), (3144, 396), (3144, 410), (3144, 441), (3144, 446), (3144, 448), (3144, 449), (3144, 450), (3144, 473), (3144, 554), (3144, 619), (3144, 620), (3144, 765), (3144, 904), (3144, 905), (3144, 906), (3144, 907), (3144, 908), (3144, 909), (3144, 910), (3144, 911), (3144, 948), (3144, 952), (3144, 954), (3144, 992), (3144, 994), (3144, 996), (3144, 1399), (3144, 1472), (3144, 1473), (3144, 1599), (3144, 1640), (3144, 1656), (3144, 1666), (3144, 1670), (3144, 1671), (3144, 1672), (3144, 1673), (3144, 1675), (3144, 1677), (3144, 1710), (3144, 1725), (3144, 1726), (3144, 1784), (3144, 1785), (3144, 1800), (3144, 1801), (3144, 1852), (3144, 1853), (3144, 1856), (3144, 1896), (3144, 1906), (3144, 1907), (3144, 1975), (3144, 1978), (3144, 2031), (3144, 2125), (3144, 2143), (3144, 2184), (3144, 2186), (3144, 2201), (3144, 2276), (3144, 2277), (3144, 2302), (3144, 2303), (3144, 2304), (3144, 2305), (3144, 2306), (3144, 2307), (3144, 2308), (3144, 2309), (3144, 2310), (3144, 2311), (3144, 2312), (3144, 2313), (3144, 2314), (3144, 2315), (3144, 2316), (3144, 2321), (3144, 2322), (3144, 2323), (3144, 2369), (3144, 2409), (3144, 2410), (3144, 2413), (3144, 2479), (3144, 2480), (3144, 2485), (3144, 2501), (3144, 2545), (3144, 2559), (3144, 2560), (3144, 2564), (3144, 2566), (3144, 2569), (3144, 2570), (3144, 2577), (3144, 2618), (3144, 2631), (3144, 2669), (3144, 2670), (3144, 2693), (3144, 2751), (3144, 2752), (3144, 2789), (3144, 2790), (3144, 2796), (3144, 2797), (3144, 2832), (3144, 2833), (3144, 2834), (3144, 3050), (3144, 3070), (3144, 3090), (3144, 3115), (3144, 3127), (3144, 3128), (3145, 23), (3145, 100), (3145, 158), (3145, 159), (3145, 161), (3145, 166), (3145, 167), (3145, 222), (3145, 253), (3145, 254), (3145, 255), (3145, 256), (3145, 336), (3145, 337)]
noncomputable def edges55 : List (Nat × Nat) := [(3145, 341), (3145, 342), (3145, 345), (3145, 362), (3145, 363), (3145, 395), (3145, 398), (3145, 400), (3145, 401), (3145, 402), (3145, 403), (3145, 404), (3145, 405), (3145, 406), (3145, 407), (3145, 408), (3145, 409), (3145, 416), (3145, 417), (3145, 418), (3145, 419), (3145, 420), (3145, 421), (3145, 422), (3145, 432), (3145, 476), (3145, 487), (3145, 593), (3145, 631), (3145, 632), (3145, 637), (3145, 638), (3145, 965), (3145, 966), (3145, 967), (3145, 968), (3145, 969), (3145, 970), (3145, 971), (3145, 972), (3145, 973), (3145, 974), (3145, 975), (3145, 976), (3145, 977), (3145, 978), (3145, 979), (3145, 980), (3145, 981), (3145, 997), (3145, 1003), (3145, 1031), (3145, 1043), (3145, 1044), (3145, 1045), (3145, 1046), (3145, 1079), (3145, 1346), (3145, 1347), (3145, 1348), (3145, 1359), (3145, 1487), (3145, 1488), (3145, 1490), (3145, 1491), (3145, 1492), (3145, 1493), (3145, 1494), (3145, 1495), (3145, 1501), (3145, 1575), (3145, 1576), (3145, 1577), (3145, 1578), (3145, 1579), (3145, 1580), (3145, 1581), (3145, 1582), (3145, 1583), (3145, 1584), (3145, 1585), (3145, 1586), (3145, 1587), (3145, 1588), (3145, 1589), (3145, 1590), (3145, 1591), (3145, 1592), (3145, 1593), (3145, 1595), (3145, 1596), (3145, 1597), (3145, 1598), (3145, 1655), (3145, 1656), (3145, 1658), (3145, 1659), (3145, 1660), (3145, 1661), (3145, 1662), (3145, 1663), (3145, 1664), (3145, 1666), (3145, 1667), (3145, 1668), (3145, 1669), (3145, 1670), (3145, 1672), (3145, 1674), (3145, 1677), (3145, 1728), (3145, 1729), (3145, 1730), (3145, 1731), (3145, 1738), (3145, 1739), (3145, 1740), (3145, 1849), (3145, 1865), (3145, 1866), (3145, 1983), (3145, 1984), (3145, 1985), (3145, 1987), (3145, 1988), (3145, 1991), (3145, 1993), (3145, 1994), (3145, 1995), (3145, 1997), (3145, 1999), (3145, 2000), (3145, 2001), (3145, 2187), (3145, 2188), (3145, 2423), (3145, 2427), (3145, 2428), (3145, 2429), (3145, 2571), (3145, 2572), (3145, 2573), (3145, 2574), (3145, 2668), (3145, 2669), (3145, 2674), (3145, 2675), (3145, 3017), (3145, 3022), (3145, 3023), (3145, 3024), (3145, 3045), (3145, 3048)]

noncomputable def edges : List (Nat × Nat) := edges0 ++ (edges1 ++ (edges2 ++ (edges3 ++ (edges4 ++ (edges5 ++ (edges6 ++ (edges7 ++ (edges8 ++ (edges9 ++ (edges10 ++ (edges11 ++ (edges12 ++ (edges13 ++ (edges14 ++ (edges15 ++ (edges16 ++ (edges17 ++ (edges18 ++ (edges19 ++ (edges20 ++ (edges21 ++ (edges22 ++ (edges23 ++ (edges24 ++ (edges25 ++ (edges26 ++ (edges27 ++ (edges28 ++ (edges29 ++ (edges30 ++ (edges31 ++ (edges32 ++ (edges33 ++ (edges34 ++ (edges35 ++ (edges36 ++ (edges37 ++ (edges38 ++ (edges39 ++ (edges40 ++ (edges41 ++ (edges42 ++ (edges43 ++ (edges44 ++ (edges45 ++ (edges46 ++ (edges47 ++ (edges48 ++ (edges49 ++ (edges50 ++ (edges51 ++ (edges52 ++ (edges53 ++ (edges54 ++ (edges55)))))))))))))))))))))))))))))))))))))))))))))))))))))))

/-- nodes from which no stderr write is reachable (computed by the translator; only its closure is used) -/
def safeMask : Nat := 0x3fff9fffffffffffffffffffffffffffffffffffffffffffffffffffffffffffffffffffffffffffffffffffffffffffffffffffffffffffffffffffffffffffffffffffffffffffffffffffffffffffffffffffffffffffffffffffffffffffff7ffffffffffffffffffffffffffffffffffffffffffffffffffffffffffffff01a818fdffffffffffffffffffffffffffffffffffffffffffffffffffffffffffffffffffffffffffffffffffffffffffffffffffffffffffffffffffffffffffffffffffffffffffffffffffffffffffffffffffffffffffffffffffffffffffffffffffffffffffffffffffffffffffffffffffffffffffffffffffffffffffffee5ffffbfffffffffffffffffffffffffffffffffffffffffffffffffffffffffffffffffffffffffffffffffffffffffffffffffffffffffffffffffffffffffefffffffffffffffffffffffff7ffffffffffffffffffffffffffffffffffffffffffffffffffffffffffffffffffffffffffffffffffffffffffffffffffffffffffffffffff

/-- functions that write to file descriptor 2 directly -/
def writers : List Nat := [3130]
def writerNames : List String := ["writeErrData"]

/-- every node outside the mask, with its name -/
def unsafeNodes : List (Nat × String) := [(459, "debugLogReader.printVal"), (560, "dumpSigStack$1"), (1050, "gwrite"), (1069, "hexdumpMarker.start"), (1071, "hexdumper.close"), (1072, "hexdumper.flushLine"), (1076, "hexdumper.write"), (2089, "printDebugLogImpl"), (2096, "printbool"), (2097, "printcomplex128"), (2098, "printcomplex64"), (2101, "printeface"), (2102, "printfloat32"), (2103, "printfloat64"), (2104, "printhex"), (2105, "printhexopts"), (2106, "printiface"), (2108, "printint"), (2110, "printnl"), (2113, "printpointer"), (2114, "printquoted"), (2115, "printslice"), (2116, "printsp"), (2117, "printstring"), (2118, "printuint"), (2119, "printuintptr"), (2371, "scanConservative$1"), (3129, "writeErr"), (3130, "writeErrData")]

def crashRoots : List (String × Nat) := [("gopanic", 997), ("panicmem", 1989), ("panicmemAddr", 1990), ("panicdivide", 1983), ("panicoverflow", 1992), ("panicfloat", 1986), ("goPanicIndex", 965), ("goPanicIndexU", 966), ("goPanicSliceAlen", 977), ("goPanicSliceB", 979), ("panicdottypeE", 1984), ("panicdottypeI", 1985), ("panicnildottype", 1991), ("panicwrap", 2001), ("panicunsafeslicelen", 1995), ("panicmakeslicelen", 1988), ("throw", 2799), ("fatal", 649), ("fatalthrow", 655), ("fatalpanic", 651), ("sigpanic", 2559), ("sigpanic0", 2560), ("Goexit", 20), ("goexit1", 994), ("goexit0", 993), ("checkdead", 358), ("dieFromSignal", 489), ("crash", 442), ("sighandler", 2547), ("badsignal", 212), ("sigtrampgo", 2570), ("dopanic_m", 542), ("printpanics", 2111), ("printpanicval", 2112), ("preprintpanics", 2083), ("startpanic_m", 2648), ("recovery", 2225), ("gorecover", 1003), ("deferreturn", 488), ("deferproc", 484), ("newstack", 1856), ("mallocgc", 1501), ("main", 1473), ("sigNotOnStack", 2494), ("badmorestackg0", 208), ("badmorestackgsignal", 210), ("unlock2", 3032), ("lock2", 1422), ("fatalsignal", 654), ("raisebadsignal", 2185), ("sigfwdgo", 2546), ("exitsyscall", 621), ("schedule", 2412), ("mstart1", 1786), ("mcall", 1640), ("systemstack", 2789), ("morestack", 1725), ("abort", 81), ("exit", 619), ("raise", 2184), ("raiseproc", 2186), ("closechan", 395), ("chansend", 343), ("chanrecv", 339), ("mapassign_faststr", 1592), ("panicCheck1", 1979), ("panicCheck2", 1980), ("printanycustomtype", 2095), ("goroutineheader", 1026), ("traceback", 3001), ("tracebackothers", 3007), ("printDebugLog", 2088), ("hexdumpWords", 1070), ("writeErrStr", 3131), ("sync_throw", 2714), ("sync_fatal", 2702), ("rawstring", 2199), ("semrelease1", 2444), ("sync_runtime_Semrelease", 2707), ("timeSleep", 2806), ("gcStart", 876), ("gcBgMarkWorker", 790), ("sysmon", 2786), ("bgsweep", 217), ("forcegchelper", 727), ("printlock", 2109), ("printunlock", 2120), ("printCgoTraceback", 2087), ("tracebackHexdump", 3005), ("maps_fatal", 1602)]
def printCallers : List String := ["printeface", "printiface", "printquoted", "printslice"]
def stripped : List (String × String) := [("debuglog.go", "printDebugLog"), ("hexdump.go", "hexdumpWords"), ("runtime.go", "writeErrStr")]
def validateOutcome : String := "valid"

def witness : List Nat := [2117, 1050, 3129, 3130]
/-- the chunks that hold the witness's edges (a hint: checking the path against them avoids scanning `edges`) -/
noncomputable def witnessEdges : List (Nat × Nat) := edges16 ++ edges36 ++ edges52

end GV.Gen.RuntimeGraph
