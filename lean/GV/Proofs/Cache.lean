import GV.Model.Cache
/-
What a lookup returns after `put` and after each fault, and the invariant of the store: every cache operation keeps
`Store.Sound` (`build_sound`, `fault_sound`), and in a sound store a lookup misses or returns the cold value (`Store.Sound.get`).
-/
namespace GV.Cache

variable {K V : Type} [DecidableEq K]

theorem get_put_same (s : Store K V) (k : K) (v : V) : (s.put k v).get k = some v := by
  simp [Store.put, Store.get]

theorem get_put_other {s : Store K V} {k k' : K} {v : V} (h : k ≠ k') : (s.put k v).get k' = s.get k' := by
  simp [Store.put, Store.get, h]

theorem Store.Sound.get {s : Store K V} {cold : K → V} (h : s.Sound cold) (k : K) :
    s.get k = none ∨ s.get k = some (cold k) := by
  cases hg : s.get k with
  | none => exact .inl rfl
  | some v => exact .inr (congrArg some (h k v hg))

theorem build_hit {s : Store K V} {k : K} {v : V} (h : s.get k = some v) (cold : K → V) :
    s.build cold k = (v, s) := by
  rw [Store.build, h]

theorem build_miss {s : Store K V} {k : K} (h : s.get k = none) (cold : K → V) :
    s.build cold k = (cold k, s.put k (cold k)) := by
  rw [Store.build, h]

/-- a build returns the cold result and keeps the store sound -/
theorem build_sound (s : Store K V) (cold : K → V) (k : K) (h : s.Sound cold) :
    (s.build cold k).1 = cold k ∧ (s.build cold k).2.Sound cold := by
  cases hg : s.get k with
  | some v =>
    rw [build_hit hg]
    exact ⟨h k v hg, h⟩
  | none =>
    rw [build_miss hg]
    refine ⟨rfl, fun k' v' hv => ?_⟩
    by_cases hk : k = k'
    · subst hk
      rw [get_put_same] at hv
      exact (Option.some.inj hv).symm
    · rw [get_put_other hk] at hv
      exact h k' v' hv

theorem get_fault_wipe (s : Store K V) (k' : K) : (s.fault .wipe).get k' = none := rfl

theorem get_fault_delete (s : Store K V) (k k' : K) :
    (s.fault (.delete k)).get k' = if k' = k then none else s.get k' := by
  simp only [Store.fault, Store.get, List.find?_filter]
  by_cases h : k' = k
  · rw [if_pos h, List.find?_eq_none.2 fun e _ => by simp [h]]
  · have : (fun e : K × Entry V => decide ((e.1 != k) = true ∧ (e.1 == k') = true)) = (·.1 == k') := by
      funext e
      by_cases he : e.1 = k' <;> simp [he, h]
    rw [if_neg h, this]

/-- a damaged entry reads like a deleted one -/
theorem get_fault_damage (s : Store K V) (k k' : K) :
    (s.fault (.damage k)).get k' = if k' = k then none else s.get k' := by
  have : ((·.1 == k') ∘ fun e : K × Entry V => if e.1 == k then (e.1, Entry.damaged) else e) = (·.1 == k') := by
    funext e
    simp only [Function.comp]
    split <;> rfl
  simp only [Store.fault, Store.get, List.find?_map, this]
  cases hf : s.entries.find? (·.1 == k') with
  | none => simp
  | some e =>
    have he : e.1 = k' := by simpa using List.find?_some hf
    by_cases h : k' = k <;> simp [he, h]

/-- faults (deleted / damaged / wiped entries) can only turn hits into misses -/
theorem get_fault_some {s : Store K V} {f : Fault K} {k : K} {v : V} (h : (s.fault f).get k = some v) :
    s.get k = some v := by
  cases f with
  | wipe => cases h
  | delete k₀ | damage k₀ =>
    simp only [get_fault_delete, get_fault_damage] at h
    split at h
    · cases h
    · exact h

/-- soundness survives every fault -/
theorem fault_sound (s : Store K V) (cold : K → V) (f : Fault K) (h : s.Sound cold) : (s.fault f).Sound cold :=
  fun k v hv => h k v (get_fault_some hv)

end GV.Cache
