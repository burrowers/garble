import GV.Model.Replacer
/-
What `firstMatch`, `replaceFuel`/`replaceAll` and `reverseContent` compute: `firstMatch` on a pair list by cases on its
head, `replaceAll` on a text by cases on whether a key matches at its first byte (fuel plays no part:
`replaceFuel_eq_replaceAll`), and `reverseContent` in terms of the lines that `replaceAll` leaves alone.
-/
namespace GV.Replacer

theorem firstMatch_cons_of_prefix {k v s : Bytes} {ps : List (Bytes × Bytes)} (hne : k ≠ []) (hp : k <+: s) :
    firstMatch ((k, v) :: ps) s = some (k, v) :=
  List.find?_cons_of_pos (by
    simp only [List.isEmpty_eq_false_iff.mpr hne, List.isPrefixOf_iff_prefix.mpr hp, Bool.not_false, Bool.and_self])

theorem firstMatch_cons_of_not_prefix {k v s : Bytes} {ps : List (Bytes × Bytes)} (hp : ¬ k <+: s) :
    firstMatch ((k, v) :: ps) s = firstMatch ps s :=
  List.find?_cons_of_neg (by
    simp only [Bool.and_eq_true, List.isPrefixOf_iff_prefix, hp, and_false, not_false_eq_true])

theorem firstMatch_key_ne_nil {pairs : List (Bytes × Bytes)} {s k v : Bytes} (h : firstMatch pairs s = some (k, v)) :
    k ≠ [] := by
  have := List.find?_some h
  rw [Bool.and_eq_true, Bool.not_eq_true', List.isEmpty_eq_false_iff] at this
  exact this.1

/-- a matched key is not empty, so every step consumes a byte along with its unit of fuel -/
theorem replaceFuel_succ (pairs : List (Bytes × Bytes)) {f : Nat} {s : Bytes} (hf : s.length ≤ f) :
    replaceFuel pairs (f + 1) s = replaceFuel pairs f s := by
  induction f generalizing s with
  | zero =>
    rw [List.length_eq_zero_iff.mp (Nat.le_zero.mp hf)]
    rfl
  | succ f ih =>
    cases s with
    | nil => rfl
    | cons c r =>
      rw [List.length_cons, Nat.succ_le_succ_iff] at hf
      simp only [replaceFuel]
      split
      · next k v h =>
        have := List.length_pos_iff.mpr (firstMatch_key_ne_nil h)
        rw [ih (by rw [List.length_drop, List.length_cons]; omega)]
      · rw [ih hf]

theorem replaceFuel_eq_replaceAll {pairs : List (Bytes × Bytes)} {f : Nat} {s : Bytes} (h : s.length ≤ f) :
    replaceFuel pairs f s = replaceAll pairs s := by
  induction h with
  | refl => exact (replaceFuel_succ pairs (Nat.le_refl _)).symm
  | step h ih => rw [replaceFuel_succ pairs h, ih]

theorem replaceAll_cons_of_none {pairs : List (Bytes × Bytes)} {c : UInt8} {r : Bytes}
    (h : firstMatch pairs (c :: r) = none) : replaceAll pairs (c :: r) = c :: replaceAll pairs r := by
  rw [replaceAll, List.length_cons, replaceFuel, h]
  rfl

/-- at the start of an obfuscated name the first listed pair whose key matches is applied -/
theorem replaceAll_cons_of_some {pairs : List (Bytes × Bytes)} {c : UInt8} {r k v : Bytes}
    (h : firstMatch pairs (c :: r) = some (k, v)) :
    replaceAll pairs (c :: r) = v ++ replaceAll pairs ((c :: r).drop k.length) := by
  rw [replaceAll, List.length_cons, replaceFuel, h]
  exact congrArg (v ++ ·) (replaceFuel_eq_replaceAll (by rw [List.length_drop]; exact Nat.sub_le _ _))

theorem replaceAll_append_of_some {pairs : List (Bytes × Bytes)} {k v rest : Bytes}
    (h : firstMatch pairs (k ++ rest) = some (k, v)) : replaceAll pairs (k ++ rest) = v ++ replaceAll pairs rest := by
  cases k with
  | nil => exact absurd rfl (firstMatch_key_ne_nil h)
  | cons c kr =>
    rw [List.cons_append] at h
    rw [List.cons_append, replaceAll_cons_of_some h, ← List.cons_append, List.drop_left]

theorem splitAfterNL_flatten : ∀ s : Bytes, (splitAfterNL s).flatten = s
  | [] => rfl
  | c :: r => by
    have ih := splitAfterNL_flatten r
    rw [splitAfterNL]
    split
    · exact congrArg (c :: ·) ih
    · revert ih
      generalize splitAfterNL r = ls
      rintro rfl
      cases ls <;> rfl

theorem any_zip_map_ne {α : Type} [BEq α] (f : α → α) (l : List α) :
    ((l.zip (l.map f)).any fun (a, b) => a != b) = l.any fun a => a != f a := by
  induction l with
  | nil => rfl
  | cons a l ih => rw [List.map_cons, List.zip_cons_cons, List.any_cons, List.any_cons, ih]

/-- `modified` is false exactly when `Replace` leaves every line as it is -/
theorem reverseContent_snd_eq_false_iff {pairs : List (Bytes × Bytes)} {input : Bytes} :
    (reverseContent pairs input).2 = false ↔ ∀ l ∈ splitAfterNL input, replaceAll pairs l = l := by
  rw [reverseContent, any_zip_map_ne, List.any_eq_false]
  exact forall₂_congr fun l _ => by rw [bne_iff_ne, Decidable.not_not, eq_comm]

theorem reverseContent_of_fixed {pairs : List (Bytes × Bytes)} {input : Bytes}
    (h : ∀ l ∈ splitAfterNL input, replaceAll pairs l = l) : reverseContent pairs input = (input, false) := by
  refine Prod.ext ?_ (reverseContent_snd_eq_false_iff.mpr h)
  rw [reverseContent, List.map_congr_left h, List.map_id', splitAfterNL_flatten]

/-- the pair list enters the replacement only through `firstMatch` -/
theorem replaceFuel_congr {ps ps' : List (Bytes × Bytes)} (h : ∀ s, firstMatch ps s = firstMatch ps' s)
    (f : Nat) (s : Bytes) : replaceFuel ps f s = replaceFuel ps' f s := by
  induction f generalizing s with
  | zero => rfl
  | succ f ih =>
    cases s with
    | nil => rfl
    | cons c r => simp only [replaceFuel, h, ih]

end GV.Replacer
