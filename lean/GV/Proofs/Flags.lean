import GV.Model.Flags
/- lemmas about `flagSetValue` / `flagValues` (the helpers garble uses on tool command lines) -/
namespace GV.Flags

/-- is `x` somewhere immediately preceded by the bare flag `n`? -/
def adj (n x : Tok) : List Tok → Bool
  | a :: b :: rest => (a == n && b == x) || adj n x (b :: rest)
  | _ => false

/-- `flagSetValue` keeps every argument that is neither `n=…` nor the value following a bare `n` -/
theorem mem_flagSetValue (n v x : Tok) (l : List Tok)
    (hx : x ∈ l) (hp : (n ++ [61]).isPrefixOf x = false) (ha : adj n x l = false) :
    x ∈ flagSetValue n v l := by
  fun_induction flagSetValue n v l with
  | case1 => cases hx
  | case2 a h =>
    rw [List.mem_singleton.mp hx, h] at hp
    cases hp
  | case3 a _ _ => exact hx
  | case4 a _ _ => exact List.mem_append_left [n ++ 61 :: v] hx
  | case5 a b rest h =>
    rcases List.mem_cons.mp hx with rfl | hx
    · rw [h] at hp
      cases hp
    · exact List.mem_cons_of_mem _ hx
  | case6 a b rest _ h2 =>
    -- `a` is the bare `n`: by `ha` its value `b` is not `x`
    simp only [adj, h2, Bool.true_and, Bool.or_eq_false_iff, beq_eq_false_iff_ne] at ha
    rcases List.mem_cons.mp hx with rfl | hx
    · exact List.mem_cons_self
    · rcases List.mem_cons.mp hx with rfl | hx
      · exact absurd rfl ha.1
      · exact List.mem_cons_of_mem _ (List.mem_cons_of_mem _ hx)
  | case7 a b rest _ _ ih =>
    simp only [adj, Bool.or_eq_false_iff] at ha
    rcases List.mem_cons.mp hx with rfl | hx
    · exact List.mem_cons_self
    · exact List.mem_cons_of_mem _ (ih hx ha.2)

/-- no bare `n` in `l` is followed by `x`, and none is if `l` is continued with `x`: `l` does not end in a bare `n`.
This is what appending arguments and `flagSetValue` for another name preserve. -/
def Clear (n x : Tok) (l : List Tok) : Prop := adj n x l = false ∧ l.getLast? ≠ some n

theorem clear_nil {n x : Tok} : Clear n x [] := ⟨rfl, nofun⟩

theorem clear_singleton {n x a : Tok} : Clear n x [a] ↔ a ≠ n := by
  simp [Clear, adj]

theorem clear_cons_cons {n x a b : Tok} {l : List Tok} :
    Clear n x (a :: b :: l) ↔ ¬(a = n ∧ b = x) ∧ Clear n x (b :: l) := by
  simp [Clear, adj, and_assoc]

theorem clear_of_not_mem {n x : Tok} : ∀ {m : List Tok}, n ∉ m → Clear n x m
  | [], _ => clear_nil
  | [a], h => clear_singleton.mpr fun e => h (e ▸ List.mem_singleton_self a)
  | a :: _ :: _, h =>
    clear_cons_cons.mpr ⟨fun e => h (e.1 ▸ List.mem_cons_self), clear_of_not_mem fun hm => h (List.mem_cons_of_mem a hm)⟩

theorem clear_append {n x : Tok} {m : List Tok} (hm : n ∉ m) : ∀ {l : List Tok}, Clear n x l → Clear n x (l ++ m)
  | [], _ => clear_of_not_mem hm
  | [a], h => by
    cases m with
    | nil => exact h
    | cons _ _ =>
      exact clear_cons_cons.mpr ⟨fun e => clear_singleton.mp h e.1, clear_of_not_mem hm⟩
  | a :: b :: l, h => by
    rw [clear_cons_cons] at h
    exact clear_cons_cons.mpr ⟨h.1, clear_append hm h.2⟩

/-- the first argument after `flagSetValue` is the old one or the `n=v` written in its place -/
theorem flagSetValue_cons (n v a : Tok) (l : List Tok) :
    ∃ r, flagSetValue n v (a :: l) = a :: r ∨ flagSetValue n v (a :: l) = (n ++ 61 :: v) :: r := by
  cases l <;> simp only [flagSetValue] <;> split
  · exact ⟨_, .inr rfl⟩
  · split <;> exact ⟨_, .inl rfl⟩
  · exact ⟨_, .inr rfl⟩
  · split <;> exact ⟨_, .inl rfl⟩

/-- `flagSetValue n v` keeps `l` clear of `(n', x)` unless it writes `x` or `n'` itself -/
theorem clear_flagSetValue {n v n' x : Tok} {l : List Tok} (h : Clear n' x l)
    (hv : v ≠ x ∧ v ≠ n') (hnv : n ++ 61 :: v ≠ x ∧ n ++ 61 :: v ≠ n') : Clear n' x (flagSetValue n v l) := by
  fun_induction flagSetValue n v l with
  | case1 => exact clear_singleton.mpr hnv.2
  | case2 a _ => exact clear_singleton.mpr hnv.2
  | case3 a _ _ => exact h
  | case4 a _ _ =>
    exact clear_cons_cons.mpr ⟨fun e => hnv.1 e.2, clear_singleton.mpr hnv.2⟩
  | case5 a b rest _ =>
    rw [clear_cons_cons] at h ⊢
    exact ⟨fun e => hnv.2 e.1, h.2⟩
  | case6 a b rest _ _ =>
    rw [clear_cons_cons] at h ⊢
    refine ⟨fun e => hv.1 e.2, ?_⟩
    cases rest with
    | nil => exact clear_singleton.mpr hv.2
    | cons c r =>
      rw [clear_cons_cons] at h ⊢
      exact ⟨fun e => hv.2 e.1, h.2.2⟩
  | case7 a b rest _ _ ih =>
    rw [clear_cons_cons] at h
    have ih := ih h.2
    obtain ⟨r, hfs | hfs⟩ := flagSetValue_cons n v b rest <;> rw [hfs] at ih ⊢
    · exact clear_cons_cons.mpr ⟨h.1, ih⟩
    · exact clear_cons_cons.mpr ⟨fun e => hnv.1 e.2, ih⟩

end GV.Flags
