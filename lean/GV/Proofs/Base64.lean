import GV.Model.Base64
/-
The model's decoders are left inverses of its encoders.  Injectivity of the encoding (used for the `-seed=` token of
the flag pre-image) and the facts about single symbols all come from that: no fact about the alphabet is checked on
more than its 64 symbols.
-/
namespace GV.Base64

theorem b64val_b64char : ∀ n, n < 64 → b64val (b64char n) = some n := by decide +kernel
theorem b64valStd_b64charStd : ∀ n, n < 64 → b64valStd (b64charStd n) = some n := by decide +kernel

/-- the only symbol that decodes to `v` is `b64char v` -/
theorem b64char_eq {n : Nat} (hn : n < 64) {c : UInt8} {v : Nat} (hc : b64val c = some v) (h : b64char n = c) : n = v :=
  Option.some.inj (by rw [← b64val_b64char n hn, h, hc])

theorem b64char_inj {m n : Nat} (hm : m < 64) (hn : n < 64) (h : b64char m = b64char n) : m = n :=
  b64char_eq hm (b64val_b64char n hn) h

theorem sextets_lt : ∀ (bs : List UInt8), ∀ s ∈ sextets bs, s < 64 := by
  intro bs
  fun_induction sextets bs with
  | case1 a b c rest a' b' c' ih =>
    simp only [List.mem_cons]
    rintro s (rfl | rfl | rfl | rfl | h)
    all_goals first | exact ih s h | exact Nat.mod_lt _ (by decide)
  | case2 | case3 =>
    simp only [List.mem_cons, List.not_mem_nil, or_false]
    rintro s (rfl | rfl | rfl) <;> exact Nat.mod_lt _ (by decide)
  | case4 => simp

/-- a byte is what `Nat.toUInt8` makes of its value -/
theorem toUInt8_eq {n : Nat} {x : UInt8} (h : n = x.toNat) : n.toUInt8 = x := by
  subst h
  exact UInt8.ofNat_toNat

/-- **decoding the sextets of a byte list gives the bytes back**: per group of three bytes the 6-bit pieces are put
together again (the three equations are about `Nat`s below 256) -/
theorem decodeVals_sextets : ∀ (bs : List UInt8), decodeVals (sextets bs) = some bs := by
  intro bs
  fun_induction sextets bs with
  | case1 a b c rest a' b' c' ih =>
    have ha := a.toNat_lt
    have hb := b.toNat_lt
    have hc := c.toNat_lt
    simp only [decodeVals, ih, bind, Option.bind, pure, Option.some.injEq, List.cons.injEq, and_true]
    exact ⟨toUInt8_eq (by omega), toUInt8_eq (by omega), toUInt8_eq (by omega)⟩
  | case2 a b a' b' =>
    have ha := a.toNat_lt
    have hb := b.toNat_lt
    simp only [decodeVals, Option.some.injEq, List.cons.injEq, and_true]
    exact ⟨toUInt8_eq (by omega), toUInt8_eq (by omega)⟩
  | case3 a a' =>
    have ha := a.toNat_lt
    simp only [decodeVals, Option.some.injEq, List.cons.injEq, and_true]
    exact toUInt8_eq (by omega)
  | case4 => rfl

theorem mapM_b64valStd : ∀ (l : List Nat), (∀ s ∈ l, s < 64) → (l.map b64charStd).mapM b64valStd = some l
  | [], _ => rfl
  | s :: l, h => by
    simp only [List.map_cons, List.mapM_cons, b64valStd_b64charStd s (h s (by simp)),
      mapM_b64valStd l (fun t ht => h t (by simp [ht])), bind, Option.bind, pure]

/-- a byte that `b64valStd` rejects does not occur in an encoding -/
theorem not_mem_encodeStd {c : UInt8} (hc : b64valStd c = none) (xs : List UInt8) : c ∉ encodeStd xs := by
  intro h
  obtain ⟨s, hs, e⟩ := List.mem_map.mp h
  have := b64valStd_b64charStd s (sextets_lt xs s hs)
  rw [e, hc] at this
  cases this

/-- **`RawStdEncoding.DecodeString` inverts `EncodeToString`** -/
theorem decodeStd_encodeStd (xs : List UInt8) : decodeStd (encodeStd xs) = some xs := by
  have hf : (encodeStd xs).filter (fun c => c != 13 && c != 10) = encodeStd xs := by
    refine List.filter_eq_self.mpr fun c hc => ?_
    have h13 := not_mem_encodeStd (c := 13) (by decide) xs
    have h10 := not_mem_encodeStd (c := 10) (by decide) xs
    simp only [Bool.and_eq_true, bne_iff_ne]
    exact ⟨fun e => h13 (e ▸ hc), fun e => h10 (e ▸ hc)⟩
  rw [decodeStd, hf, encodeStd, mapM_b64valStd _ (sextets_lt xs)]
  exact decodeVals_sextets xs

/-- `base64.RawStdEncoding.EncodeToString` is injective -/
theorem encodeStd_inj (xs ys : List UInt8) (h : encodeStd xs = encodeStd ys) : xs = ys :=
  Option.some.inj (by rw [← decodeStd_encodeStd xs, ← decodeStd_encodeStd ys, h])

theorem encodeStd_no_space (xs : List UInt8) : (32 : UInt8) ∉ encodeStd xs := not_mem_encodeStd (by decide) xs

end GV.Base64
