import GV.Model.Naming
/- `decideObj` by cases: one equation for each way through `obfuscatedObjectName`, and what a `rename` result says
about the hash that produced it -/
namespace GV.Naming
open GV.Salt GV.NameHash

theorem ofOpt_eq_rename {x : Option Bytes} {n : Bytes} : ofOpt x = .rename n ↔ x = some n := by
  cases x <;> simp [ofOpt]

theorem ofOpt_ne_keep (x : Option Bytes) : ofOpt x ≠ .keep := by
  cases x <;> simp [ofOpt]

/-- the shape of every early return of `obfuscatedObjectName` that keeps the name -/
theorem ite_keep_eq_rename {c : Prop} [Decidable c] {d : Decision} {n : Bytes} :
    (if c then .keep else d) = Decision.rename n ↔ ¬c ∧ d = .rename n := by
  by_cases hc : c <;> simp [hc]

theorem ite_keep_eq_keep {c : Prop} [Decidable c] {d : Decision} :
    (if c then .keep else d) = Decision.keep ↔ c ∨ d = .keep := by
  by_cases hc : c <;> simp [hc]

/-- `specialKeep` looks at the name whatever the path: a name that is none of the special ones is not kept by it -/
theorem specialKeep_of_name {path name : Bytes}
    (h : (name == str "align64" || name == str "FS" || name == str "Method" || name == str "MethodByName" ||
      hasSuffix (str "SET") name) = false) : specialKeep path name = false := by
  simp only [Bool.or_eq_false_iff] at h
  simp [specialKeep, h]

section
variable {env : Env} {o : Obj} {path : Bytes} {lp : Pkg}

theorem decideObj_universe (hp : o.pkgPath = none) : decideObj env o = .keep := by
  simp only [decideObj, hp]

theorem decideObj_special (hp : o.pkgPath = some path) (hs : specialKeep path o.name = true) :
    decideObj env o = .keep := by
  simp only [decideObj, hp, hs, if_true]

theorem decideObj_unlisted (hp : o.pkgPath = some path) (hs : specialKeep path o.name = false)
    (hl : env.lookup path = .notFound ∨ env.lookup path = .notDependency) : decideObj env o = .panic := by
  rcases hl with hl | hl <;> simp only [decideObj, hp, hs, hl, Bool.false_eq_true, if_false]

/-- a package that is not to be obfuscated keeps all its names, the special ones included -/
theorem decideObj_not_obfuscated (hp : o.pkgPath = some path) (hl : env.lookup path = .found lp)
    (ho : lp.toObfuscate = false) : decideObj env o = .keep := by
  simp only [decideObj, hp, hl, ho, Bool.not_false, if_true, ite_self]

/-- past the early returns the decision is taken on the kind of object -/
theorem decideObj_obfuscated (hp : o.pkgPath = some path) (hs : specialKeep path o.name = false)
    (hl : env.lookup path = .found lp) (ho : lp.toObfuscate = true) :
    decideObj env o =
      match o.kind with
      | .field =>
        match o.structHash with
        | none => .panic
        | some h => fieldHash env h o.name o.cls
      | .var => pkgHash env lp o.name o.cls
      | .typeName => pkgHash env lp o.name o.cls
      | .func =>
        if env.intrinsic path o.name then .keep
        else if o.cls == .exported && o.hasRecv then .keep
        else if o.name == str "main" || o.name == str "init" || o.name == str "TestMain" then .keep
        else if hasPrefix (str "Test") o.name && o.testSig then .keep
        else pkgHash env lp o.name o.cls
      | .other => .keep := by
  simp only [decideObj, hp, hs, hl, ho, Bool.not_true, Bool.false_eq_true, if_false]
  rfl

/-- only an object of an obfuscated package, and none of the special ones, is renamed -/
theorem obfuscated_of_rename {n : Bytes} (hp : o.pkgPath = some path) (hl : env.lookup path = .found lp)
    (h : decideObj env o = .rename n) : specialKeep path o.name = false ∧ lp.toObfuscate = true := by
  constructor
  · cases hs : specialKeep path o.name with
    | false => rfl
    | true => rw [decideObj_special hp hs] at h; cases h
  · cases ho : lp.toObfuscate with
    | true => rfl
    | false => rw [decideObj_not_obfuscated hp hl ho] at h; cases h

/-- a new name that is not a field's is the hash of the old one with the package's salt -/
theorem hash_of_rename {n : Bytes} (hp : o.pkgPath = some path) (hl : env.lookup path = .found lp)
    (hk : o.kind ≠ .field) (h : decideObj env o = .rename n) :
    hashWithPackage env.cfg lp.path lp.gaid o.name o.cls = some n := by
  obtain ⟨hs, ho⟩ := obfuscated_of_rename hp hl h
  rw [decideObj_obfuscated hp hs hl ho] at h
  cases hk' : o.kind <;> simp only [hk', ite_keep_eq_rename, reduceCtorEq] at h
  · exact absurd hk' hk
  · exact ofOpt_eq_rename.mp h
  · exact ofOpt_eq_rename.mp h
  · exact ofOpt_eq_rename.mp h.2.2.2.2

/-- a field's new name is the hash of the old one with the salt of its struct -/
theorem fieldHash_of_rename {n : Bytes} {sh : Nat} (hp : o.pkgPath = some path) (hl : env.lookup path = .found lp)
    (hk : o.kind = .field) (hh : o.structHash = some sh) (h : decideObj env o = .rename n) :
    (structSaltBytes env.cfg sh).bind (fun s => hashWithCustomSalt env.cfg s o.name o.cls) = some n := by
  obtain ⟨hs, ho⟩ := obfuscated_of_rename hp hl h
  rw [decideObj_obfuscated hp hs hl ho, hk, hh] at h
  exact ofOpt_eq_rename.mp h

end

theorem asmSymbolName_hashed {env : Env} {P : Pkg} {f : Bytes} {cls : NameClass} (ho : P.toObfuscate = true)
    (hi : env.intrinsic P.path f = false) :
    asmSymbolName env P f cls = hashWithPackage env.cfg P.path P.gaid f cls := by
  simp [asmSymbolName, ho, hi]

theorem stripPtrRecv_ptr (T : Bytes) : stripPtrRecv (40 :: 42 :: (T ++ [41])) = some T := by
  have h : hasSuffix [41] (T ++ [41]) = true := List.isSuffixOf_iff_suffix.mpr (List.suffix_append T [41])
  simp [stripPtrRecv, hasPrefix, h]

theorem stripPtrRecv_plain (T : Bytes) (h : hasPrefix [40, 42] T = false) : stripPtrRecv T = none := by
  simp [stripPtrRecv, h]

/-- the receiver `T` or `(*T)` of a linkname target is rewritten to `h T` or `(*h T)` -/
theorem recvRewrite_recv (h : Bytes → Option Bytes) (T : Bytes) (ptr : Bool) (hT : hasPrefix [40, 42] T = false) :
    recvRewrite h (if ptr then 40 :: 42 :: (T ++ [41]) else T) =
      (h T).map fun x => if ptr then [40, 42] ++ x ++ [41] else x := by
  cases ptr
  · simp [recvRewrite, stripPtrRecv_plain T hT]
  · simp [recvRewrite, stripPtrRecv_ptr T]

end GV.Naming
