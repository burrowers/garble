/- small general lemmas shared by several property files (core Lean only) -/

theorem Nat.xor_cancel_right (a b : Nat) : (a ^^^ b) ^^^ b = a := by
  rw [Nat.xor_assoc, Nat.xor_self, Nat.xor_zero]

namespace GV.ListLemmas

/-- splitting at the first separator: if neither prefix contains `sep`, equal concatenations have equal prefixes
(the prefix is what `takeWhile (· != sep)` returns) -/
theorem split_at_sep {α : Type} [DecidableEq α] (sep : α) :
    ∀ (p1 p2 r1 r2 : List α), sep ∉ p1 → sep ∉ p2 → p1 ++ sep :: r1 = p2 ++ sep :: r2 → p1 = p2 ∧ r1 = r2 := by
  intro p1 p2 r1 r2 h1 h2 h
  have key : ∀ p r, sep ∉ p → (p ++ sep :: r).takeWhile (· != sep) = p := fun p r hp => by
    have : ∀ a ∈ p, (a != sep) = true := fun a ha => bne_iff_ne.mpr fun e => hp (e ▸ ha)
    simp [List.takeWhile_append_of_pos this]
  obtain rfl : p1 = p2 := by rw [← key p1 r1 h1, ← key p2 r2 h2, h]
  exact ⟨rfl, List.cons.inj (List.append_cancel_left h) |>.2⟩

theorem append_left_cancel_of_length {α : Type} :
    ∀ (a b c d : List α), a.length = c.length → a ++ b = c ++ d → a = c ∧ b = d :=
  fun _ _ _ _ hl h => List.append_inj h hl

section
variable {α : Type}

/-- `t` is `sep`, then `d`, then no further `sep` -/
def Led (sep d : α) (t : List α) : Prop := ∃ r, t = sep :: d :: r ∧ sep ∉ d :: r

theorem flatten_led_cons {sep d : α} {ts : List (List α)} (h : ∀ t ∈ ts, Led sep d t) (x : List α) :
    ∃ r, ts.flatten ++ sep :: x = sep :: r := by
  cases ts with
  | nil => exact ⟨x, rfl⟩
  | cons t ts =>
    obtain ⟨r, rfl, _⟩ := h t List.mem_cons_self
    exact ⟨_, rfl⟩

/-- a sequence of `sep`-led tokens can be read back up to an end marker `sep :: c :: _` that no token starts like -/
theorem flatten_led_inj [DecidableEq α] {sep d c : α} (hc : c ≠ d) {ts₁ ts₂ : List (List α)} {x₁ x₂ : List α}
    (h₁ : ∀ t ∈ ts₁, Led sep d t) (h₂ : ∀ t ∈ ts₂, Led sep d t)
    (h : ts₁.flatten ++ sep :: c :: x₁ = ts₂.flatten ++ sep :: c :: x₂) : ts₁ = ts₂ ∧ x₁ = x₂ := by
  induction ts₁ generalizing ts₂ with
  | nil =>
    cases ts₂ with
    | nil => exact ⟨rfl, (List.cons.inj (List.cons.inj h).2).2⟩
    | cons u ts₂ =>
      obtain ⟨r, rfl, _⟩ := h₂ u List.mem_cons_self
      exact absurd (List.cons.inj (List.cons.inj h).2).1 hc
  | cons t ts₁ ih =>
    obtain ⟨r, rfl, hr⟩ := h₁ t List.mem_cons_self
    cases ts₂ with
    | nil => exact absurd (List.cons.inj (List.cons.inj h).2).1.symm hc
    | cons u ts₂ =>
      obtain ⟨s, rfl, hs⟩ := h₂ u List.mem_cons_self
      have h₁' := fun t ht => h₁ t (List.mem_cons_of_mem _ ht)
      have h₂' := fun t ht => h₂ t (List.mem_cons_of_mem _ ht)
      -- what follows the first token starts with `sep` again, so that token ends at the first `sep` after its own
      obtain ⟨y₁, e₁⟩ := flatten_led_cons h₁' (c :: x₁)
      obtain ⟨y₂, e₂⟩ := flatten_led_cons h₂' (c :: x₂)
      rw [List.flatten_cons, List.flatten_cons, List.append_assoc, List.append_assoc, e₁, e₂] at h
      obtain ⟨hrs, hy⟩ := split_at_sep sep (d :: r) (d :: s) y₁ y₂ hr hs (List.cons.inj h).2
      obtain ⟨hts, hx⟩ := ih h₁' h₂' (by rw [e₁, e₂, hy])
      exact ⟨by rw [hrs, hts], hx⟩

/-- filtering an optional segment whose elements all have key `k` by key `k'` -/
theorem filter_key_ite {κ : Type} [DecidableEq κ] (key : α → κ) {l : List α} {k : κ} (hl : ∀ t ∈ l, key t = k)
    (b : Bool) (k' : κ) :
    (if b then l else []).filter (fun t => decide (key t = k')) = if k = k' then (if b then l else []) else [] := by
  by_cases e : k = k'
  · rw [if_pos e]
    exact List.filter_eq_self.2 fun t ht => by simp [hl t (List.mem_ite_nil_right.1 ht).2, e]
  · rw [if_neg e]
    exact List.filter_eq_nil_iff.2 fun t ht => by simp [hl t (List.mem_ite_nil_right.1 ht).2, e]

theorem ite_singleton_inj {b₁ b₂ : Bool} {t : α} (h : (if b₁ then [t] else []) = if b₂ then [t] else []) :
    b₁ = b₂ := by
  cases b₁ <;> cases b₂ <;> simp at h <;> rfl

end

end GV.ListLemmas
