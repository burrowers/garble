import GV.Model.NameHash
import GV.Proofs.Base64
/- what Props/C16 needs about the 64 symbols after garble's fix-ups, and the length of the encoding -/
namespace GV.NameHash
open GV.Gen GV.Base64

theorem sextets_length : ∀ (bs : List UInt8), (sextets bs).length = (bs.length * 4 + 2) / 3 := by
  intro bs
  fun_induction sextets bs with
  | case1 a b c rest a' b' c' ih => simp only [List.length_cons]; omega
  | case2 => simp
  | case3 => simp
  | case4 => simp

theorem encode_length (bs : List UInt8) : (encode bs).length = (bs.length * 4 + 2) / 3 := by
  simp [encode, sextets_length]

theorem isNameChar_of_isNameStart {b : UInt8} (h : isNameStart b = true) : isNameChar b = true := by
  simp only [isNameStart, isNameChar, Bool.or_eq_true] at h ⊢
  exact h.elim (fun h => .inl (.inl h)) .inr

/-! facts about the 64 symbols after the fix-ups, each checked by kernel evaluation -/

theorem sym_rest_ok : ∀ n, n < 64 → isNameChar (fixDash (b64char n)) = true := by decide +kernel
theorem sym_first_start (cls : NameClass) : ∀ n, n < 64 → isNameStart (fixFirst cls (b64char n)) = true := by
  cases cls <;> decide +kernel
theorem sym_first_exported : ∀ n, n < 64 → isUpper (fixFirst .exported (b64char n)) = true := by decide +kernel
theorem sym_first_unexported : ∀ n, n < 64 → isUpper (fixFirst .unexported (b64char n)) = false := by decide +kernel

/-- after the dash fix-up two symbols coincide only if they are equal or are the pair `a`(26) / `-`(62): `fixDash`
only moves `-`, which is symbol 62, onto `a`, which is symbol 26, and `b64char` is injective -/
theorem sym_rest_eq {m n : Nat} (hm : m < 64) (hn : n < 64) (h : fixDash (b64char m) = fixDash (b64char n)) :
    m = n ∨ (m = 26 ∧ n = 62) ∨ (m = 62 ∧ n = 26) := by
  have dash : b64val 45 = some 62 := by decide
  have a : b64val 97 = some 26 := by decide
  unfold fixDash at h
  split at h <;> split at h
  · exact .inl ((b64char_eq hm dash (by simp_all)).trans (b64char_eq hn dash (by simp_all)).symm)
  · exact .inr (.inr ⟨b64char_eq hm dash (by simp_all), b64char_eq hn a h.symm⟩)
  · exact .inr (.inl ⟨b64char_eq hm a h, b64char_eq hn dash (by simp_all)⟩)
  · exact .inl (b64char_inj hm hn h)

theorem hashLength_bounds (sum : List UInt8) :
    minHashLength ≤ hashLength sum ∧ hashLength sum ≤ maxHashLength := by
  have hle : minHashLength ≤ maxHashLength := by decide
  have := Nat.mod_lt (sum.getD neededSumBytes 0).toNat (show 0 < maxHashLength - minHashLength + 1 from Nat.succ_pos _)
  unfold hashLength
  omega

end GV.NameHash
