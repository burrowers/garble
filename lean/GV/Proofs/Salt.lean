import GV.Model.Salt
import GV.Proofs.ListLemmas
import GV.Proofs.Base64
/-
Unique decodability of what `addGarbleToHash` hashes after the two fixed-width IDs:
  flags ++ " GOGARBLE=" ++ gogarble
where flags is a sequence of space-led tokens each starting with `-` and containing no further space.
The token list can be read back because ` GOGARBLE=` does not start like a token; the configuration can be read
back from the token list because the third byte of a token tells which flag it is.
-/
namespace GV.Salt
open GV.ListLemmas GV.Base64

theorem str_lit5 : str " GOGARBLE=" = [32, 71, 79, 71, 65, 82, 66, 76, 69, 61] := by decide +kernel

/-- the flags `appendFlags c true` writes when `c.testObf = []`, each with its leading space, in its order -/
def tokens (c : Cfg) : List Bytes :=
  (if c.literals then [str " -literals"] else []) ++ (if c.tiny then [str " -tiny"] else []) ++
  (if !c.seed.isEmpty then [str " -seed=" ++ seedString c.seed] else []) ++
  (if c.ctrlflow then [str " -ctrlflow"] else []) ++
  (if c.literals then c.xTargets.map (str " -X=" ++ ·) else [])

theorem appendFlags_tokens (c : Cfg) (ht : c.testObf = []) : appendFlags c true = (tokens c).flatten := by
  simp only [appendFlags, tokens, ht, List.flatten_append, apply_ite List.flatten, List.flatten_singleton,
    List.flatten_nil, Bool.not_true, Bool.and_false, Bool.and_true, List.isEmpty_nil, Bool.false_eq_true, if_false,
    List.append_nil]

/-- a flag as `appendFlags` writes it: space, `-`, the byte `k` that tells the flags apart, and no further space -/
def Flag (k : UInt8) (t : Bytes) : Prop := ∃ r, t = 32 :: 45 :: k :: r ∧ 32 ∉ 45 :: k :: r

theorem Flag.of_take {k : UInt8} {t : Bytes} (h : t.take 3 = [32, 45, k] ∧ 32 ∉ t.tail) : Flag k t := by
  obtain ⟨r, rfl⟩ : ∃ r, t = [32, 45, k] ++ r := ⟨t.drop 3, by rw [← h.1, List.take_append_drop]⟩
  exact ⟨r, rfl, h.2⟩

theorem flag_literals : Flag 108 (str " -literals") := .of_take (by decide +kernel)
theorem flag_tiny : Flag 116 (str " -tiny") := .of_take (by decide +kernel)
theorem flag_seed : Flag 115 (str " -seed=") := .of_take (by decide +kernel)
theorem flag_ctrlflow : Flag 99 (str " -ctrlflow") := .of_take (by decide +kernel)
theorem flag_x : Flag 88 (str " -X=") := .of_take (by decide +kernel)

theorem Flag.led {k : UInt8} {t : Bytes} : Flag k t → Led 32 45 t
  | ⟨_, e, hr⟩ => ⟨_, e, hr⟩

theorem Flag.append {k : UInt8} {p x : Bytes} : Flag k p → 32 ∉ x → Flag k (p ++ x)
  | ⟨r, e, hr⟩, hx =>
    ⟨r ++ x, by rw [e]; rfl, fun hm => (List.mem_append.1 (hm : 32 ∈ (45 :: k :: r) ++ x)).elim hr hx⟩

theorem Flag.key_append {k : UInt8} {p : Bytes} : Flag k p → ∀ x : Bytes, (p ++ x)[2]? = some k
  | ⟨_, e, _⟩, _ => by rw [e]; rfl

theorem Flag.key {k : UInt8} {p : Bytes} (h : Flag k p) : p[2]? = some k :=
  List.append_nil p ▸ h.key_append []

/-- the -X targets contain no space (they are fields of a quoted-split -ldflags value) -/
def XOK (c : Cfg) : Prop := ∀ n ∈ c.xTargets, (32 : UInt8) ∉ n

theorem tokens_led (c : Cfg) (hx : XOK c) : ∀ t ∈ tokens c, Led 32 45 t := by
  intro t ht
  simp only [tokens, List.mem_append, List.mem_ite_nil_right, List.mem_singleton, List.mem_map] at ht
  rcases ht with (((⟨_, rfl⟩ | ⟨_, rfl⟩) | ⟨_, rfl⟩) | ⟨_, rfl⟩) | ⟨_, n, hn, rfl⟩
  · exact flag_literals.led
  · exact flag_tiny.led
  · exact (flag_seed.append (encodeStd_no_space _)).led
  · exact flag_ctrlflow.led
  · exact (flag_x.append (hx n hn)).led

/-- the token list determines the configuration: filtering by the third byte gives back each flag's own segment -/
theorem tokens_inj {c₁ c₂ : Cfg} (h : tokens c₁ = tokens c₂) :
    c₁.literals = c₂.literals ∧ c₁.tiny = c₂.tiny ∧ c₁.seed = c₂.seed ∧ c₁.ctrlflow = c₂.ctrlflow ∧
      (c₁.literals = true → c₁.xTargets = c₂.xTargets) := by
  have f := fun k : UInt8 => congrArg (List.filter fun t => decide (t[2]? = some k)) h
  simp only [tokens, List.filter_append,
    filter_key_ite (·[2]?) (List.forall_mem_singleton.2 flag_literals.key),
    filter_key_ite (·[2]?) (List.forall_mem_singleton.2 flag_tiny.key),
    filter_key_ite (·[2]?) (List.forall_mem_singleton.2 (flag_seed.key_append _)),
    filter_key_ite (·[2]?) (List.forall_mem_singleton.2 flag_ctrlflow.key),
    filter_key_ite (·[2]?) (List.forall_mem_map.2 fun n _ => flag_x.key_append n)] at f
  -- at the five keys `l`, `t`, `s`, `c`, `X` (the third bytes in the `flag_*` facts) each flag's segment is the same on
  -- both sides; `simp` decides the comparisons between key bytes, which leaves the segment of the key asked for
  have e₁ := f 108
  have e₂ := f 116
  have e₃ := f 115
  have e₄ := f 99
  have e₅ := f 88
  simp at e₁ e₂ e₃ e₄ e₅
  refine ⟨ite_singleton_inj e₁, ite_singleton_inj e₂, ?_, ite_singleton_inj e₄, fun hl => ?_⟩
  · by_cases h₁ : c₁.seed = [] <;> by_cases h₂ : c₂.seed = [] <;> simp [h₁, h₂] at e₃ ⊢
    exact encodeStd_inj _ _ e₃
  · rw [if_pos hl, if_pos (ite_singleton_inj e₁ ▸ hl)] at e₅
    exact (List.map_inj_right fun _ _ => List.append_cancel_left).1 e₅

end GV.Salt
