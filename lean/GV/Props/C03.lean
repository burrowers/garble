import GV.Gen.Nondet
import GV.Proofs.Replacer
/-
C03 — Builds are reproducible bit for bit.

PARTIAL by nature: the Go compiler, assembler and linker are outside any model, and garble's whole pipeline is not
modelled as one function.  What is decided here is the part a proof can carry: *where* garble's own code could
depend on anything but its inputs, and that each such place is harmless.

`GV.Gen.nondetSites` is regenerated on every run: every `range` over a map, every `maps.Keys/Values/All`, every
package-level `math/rand` and `crypto/rand` call, clock / pid / hostname / temp-name / cwd reads, goroutines and
selects in garble's six packages (type-checked against export data), each with the class the expectation file gives
it; a new site or an edited statement is `.unclassified`.

For each class there is a theorem that the class's computation gives the same result for EVERY iteration order
(every permutation of the map's entries).  `no_order_dependent_site` then says the regenerated table has no site in
the `orderDependent` or `unclassified` class, `seeded_rand_only` that no package-level random source is used, and
`unproved_sites` pins the sites whose order-independence is only sampled.
-/
namespace GV.Props.C03
open GV.Nondet GV.Replacer

theorem mem_insert_step {α : Type} [DecidableEq α] {x a : α} {s : List α} :
    x ∈ (if a ∈ s then s else a :: s) ↔ x = a ∨ x ∈ s := by
  split
  · next ha => exact (or_iff_right_of_imp (· ▸ ha)).symm
  · exact List.mem_cons

theorem mem_foldl_insert {α : Type} [DecidableEq α] {x : α} (l : List α) : ∀ (init : List α),
    x ∈ l.foldl (fun s a => if a ∈ s then s else a :: s) init ↔ x ∈ init ∨ x ∈ l := by
  induction l with
  | nil => exact fun _ => (or_iff_left List.not_mem_nil).symm
  | cons a t ih =>
    intro init
    rw [List.foldl_cons, ih, mem_insert_step, List.mem_cons, or_assoc, or_left_comm]

/-- **setBuild**: building a set by insertion: membership does not depend on the order -/
theorem setBuild_perm {α : Type} [DecidableEq α] (l l' : List α) (h : l.Perm l') (init : List α) (x : α) :
    x ∈ l.foldl (fun s a => if a ∈ s then s else a :: s) init ↔ x ∈ l'.foldl (fun s a => if a ∈ s then s else a :: s) init := by
  rw [mem_foldl_insert, mem_foldl_insert, h.mem_iff]

/-- **anyMatch**: an existence test -/
theorem anyMatch_perm {α : Type} (l l' : List α) (h : l.Perm l') (p : α → Bool) : l.any p = l'.any p :=
  h.any_eq

/-- **commutative**: accumulation with an operation that commutes on the right -/
theorem commutative_perm {α β : Type} (f : β → α → β) (hf : ∀ b a a', f (f b a) a' = f (f b a') a)
    (l l' : List α) (h : l.Perm l') (init : β) : l.foldl f init = l'.foldl f init :=
  h.foldl_eq' (fun a _ a' _ b => hf b a a') init

/-- **collectSort**: collect (with any filter), then sort by a total, antisymmetric order: one result for all orders -/
theorem collectSort_perm {α : Type} (le : α → α → Bool)
    (total : ∀ a b, le a b || le b a) (trans : ∀ a b c, le a b → le b c → le a c) (antisymm : ∀ a b, le a b → le b a → a = b)
    (l l' : List α) (h : l.Perm l') (p : α → Bool) :
    (l.filter p).mergeSort le = (l'.filter p).mergeSort le := by
  have hp : ((l.filter p).mergeSort le).Perm ((l'.filter p).mergeSort le) :=
    (List.mergeSort_perm _ _).trans ((h.filter p).trans (List.mergeSort_perm _ _).symm)
  have s1 := List.pairwise_mergeSort (le := le) (fun a b c => trans a b c) (fun a b => total a b) (l.filter p)
  have s2 := List.pairwise_mergeSort (le := le) (fun a b c => trans a b c) (fun a b => total a b) (l'.filter p)
  exact hp.eq_of_pairwise (fun a b _ _ hab hba => antisymm a b hab hba) s1 s2

theorem eq_of_nodup_map {α β : Type} {f : α → β} {l : List α} (nd : (l.map f).Nodup) :
    ∀ ⦃a⦄, a ∈ l → ∀ ⦃b⦄, b ∈ l → f a = f b → a = b :=
  have h := List.pairwise_map.mp nd
  List.Pairwise.forall_of_forall_of_flip (fun _ _ _ => rfl) (h.imp fun ne e => absurd e ne)
    (h.imp fun ne e => absurd e.symm ne)

theorem lookup_eq_some_iff_mem {κ ν : Type} [DecidableEq κ] {k : κ} {v : ν} {l : List (κ × ν)}
    (nd : (l.map (·.1)).Nodup) : l.lookup k = some v ↔ (k, v) ∈ l := by
  induction l with
  | nil => simp
  | cons p t ih =>
    obtain ⟨k0, v0⟩ := p
    rw [List.map_cons, List.nodup_cons] at nd
    rw [List.lookup_cons, List.mem_cons, Prod.mk.injEq]
    by_cases hk : k = k0
    · subst hk
      have : (k, v) ∉ t := fun h => nd.1 (List.mem_map_of_mem (f := (·.1)) h)
      simp only [beq_self_eq_true, Option.some.injEq, true_and, this, or_false, eq_comm]
    · simp only [beq_false_of_ne hk, hk, false_and, false_or, ih nd.2]

/-- **perKeyIndependent**: each entry writes only the slot of its own key, and keys are distinct (map keys):
the final content of every slot is the same for every order -/
theorem perKey_perm {κ ν : Type} [DecidableEq κ] (l l' : List (κ × ν)) (h : l.Perm l')
    (nodup : (l.map (·.1)).Nodup) (k : κ) :
    l.lookup k = l'.lookup k :=
  Option.ext fun v => by
    rw [lookup_eq_some_iff_mem nodup, lookup_eq_some_iff_mem ((h.map _).nodup nodup), h.mem_iff]

/-- The first element satisfying `f` is the same in any two orderings of a list that are both sorted by `R`, if `R`
is antisymmetric on the elements satisfying `f`: the sublists of those elements are then one and the same list. -/
theorem find?_perm {α : Type} {R : α → α → Prop} {f : α → Bool} {l l' : List α} (h : l.Perm l')
    (s : l.Pairwise R) (s' : l'.Pairwise R)
    (anti : ∀ a b, a ∈ l → b ∈ l → f a = true → f b = true → R a b → R b a → a = b) :
    l.find? f = l'.find? f := by
  rw [← List.head?_filter, ← List.head?_filter]
  congr 1
  refine (h.filter f).eq_of_pairwise (fun a b ha hb => ?_) (s.filter f) (s'.filter f)
  rw [List.mem_filter] at ha hb
  exact anti a b ha.1 (h.mem_iff.mpr hb.1) ha.2 hb.2

/-- two keys of equal length that are both prefixes of `s` are one key, and a key has one pair -/
theorem lengthSorted_firstMatch (ps ps' : List (Bytes × Bytes)) (h : ps.Perm ps')
    (nodup : (ps.map (·.1)).Nodup)
    (s1 : ps.Pairwise (fun a b => a.1.length ≥ b.1.length)) (s2 : ps'.Pairwise (fun a b => a.1.length ≥ b.1.length))
    (s : Bytes) : firstMatch ps s = firstMatch ps' s := by
  refine find?_perm h s1 s2 fun p q hp hq mp mq hpq hqp => ?_
  rw [Bool.and_eq_true, List.isPrefixOf_iff_prefix] at mp mq
  exact eq_of_nodup_map nodup hp hq ((List.prefix_of_prefix_length_le mp.2 mq.2 hqp).eq_of_length_le hpq)

/-- **lengthSortedReplacer** (the go_asm.h name replacer, transformer.go): the pairs are the entries of a map (distinct
keys) sorted by descending key length only; among keys of equal length the order is whatever the map gave.  For EVERY
two such orderings the pair applied at any position is the same, hence the whole replacement is. -/
theorem lengthSorted_replacer (ps ps' : List (Bytes × Bytes)) (h : ps.Perm ps')
    (nodup : (ps.map (·.1)).Nodup)
    (s1 : ps.Pairwise (fun a b => a.1.length ≥ b.1.length)) (s2 : ps'.Pairwise (fun a b => a.1.length ≥ b.1.length))
    (s : Bytes) : replaceAll ps s = replaceAll ps' s :=
  replaceFuel_congr (lengthSorted_firstMatch ps ps' h nodup s1 s2) _ s

/-- no site of the current source is order-dependent or unclassified -/
theorem no_order_dependent_site :
    GV.Gen.nondetSites.all (fun s => s.cls != .orderDependent && s.cls != .unclassified) = true := by decide +kernel

/-- all random draws come from seeded streams: no package-level math/rand call anywhere in garble's packages -/
theorem seeded_rand_only : GV.Gen.nondetSites.all (fun s => s.kind != "global-rand") = true := by decide +kernel

/-- the only use of crypto/rand is `-seed=random`, which the property excludes (same seed) -/
theorem crypto_rand_only_for_random_seed :
    (GV.Gen.nondetSites.filter (fun s => s.kind == "crypto-rand")).map (·.key) = ["main|seedFlag.Set|crypto-rand#1"] := by decide +kernel

/-- no goroutines, selects, pid or hostname reads in garble's own packages -/
theorem no_scheduling_or_host_dependence :
    GV.Gen.nondetSites.all (fun s => s.kind != "goroutine" && s.kind != "select" && s.kind != "pid" && s.kind != "hostname" && s.kind != "numcpu") = true := by decide +kernel

/-- the sites whose order-independence is NOT proved here (sampled by repeated cold builds): exactly these -/
theorem unproved_sites :
    (GV.Gen.nondetSites.filter (fun s => s.cls == .sampledOnly)).map (·.key) =
      ["main|reflectInspector.ignoreReflectedTypes|map-range#1"] :=
  -- evaluating the left side compares classes only; `decide` would go on to compare the key as a string, at thrice the cost
  rfl

/-- the table is not empty and does contain proved classes (non-vacuity) -/
example : (GV.Gen.nondetSites.filter (fun s => s.cls == .collectSort)).length ≥ 4 ∧ GV.Gen.nondetSites.length ≥ 60 := by decide +kernel

end GV.Props.C03
