import GV.Model.Protocol
/-
C17 — Concurrent garble processes never interfere (the linker protocol part).

For ANY number of processes, ANY interleaving and ANY crashes: whenever a process runs the patched linker, the
binary on disk is complete and is the one for that process's version; and at most one process is inside the
lock-protected section.  flock semantics, rename atomicity of `go build -o` and timing are outside the model: partial.
-/
namespace GV.Props.C17
open GV.Protocol

/-- the source order of the protocol steps, as it stands in /repo now (regenerated) -/
theorem linker_steps_order : GV.Gen.linkerSteps = ["Lock", "checkVersion", "fileExists", "applyPatches", "Remove", "Remove", "buildLinker", "writeVersion"] := rfl
/-- the lock is taken inside PatchLinker, released by a deferred call, i.e. after the linker has run -/
theorem toolexec_steps_order : GV.Gen.toolexecLinkSteps = ["PatchLinker", "defer unlock", "Run"] := rfl

structure Inv (s : State) : Prop where
  owns : ∀ p, inCS (s.pc p) = true → s.owner = some p
  haveBin : ∀ p, (s.pc p = .built ∨ s.pc p = .stamped ∨ s.pc p = .running) → s.bin = .complete (s.ver p)
  stampOK : ∀ v, s.stamp = some v → s.bin = .complete v
  noStampWhileBuilding : ∀ p, s.pc p = .building → s.stamp = none

/-- any starting condition of the cache directory: no linker, a complete linker with or without its stamp, or a
partial binary left by an earlier crash (necessarily without a matching stamp) -/
theorem inv_initial (ver : Pid → Ver) (bin : Bin) (stamp : Option Ver)
    (h : ∀ v, stamp = some v → bin = .complete v) : Inv (initial ver bin stamp) :=
  ⟨fun _ => nofun, fun _ => nofun, h, fun _ => nofun⟩

theorem mutex (s : State) (h : Inv s) (p q : Pid) (hp : inCS (s.pc p) = true) (hq : inCS (s.pc q) = true) : p = q :=
  Option.some.inj ((h.owns p hp).symm.trans (h.owns q hq))

theorem pc_setPc_self (s : State) (p : Pid) (c : PC) : (setPc s p c).pc p = c := if_pos rfl
theorem pc_setPc_other (s : State) (p q : Pid) (c : PC) (h : q ≠ p) : (setPc s p c).pc q = s.pc q := if_neg h

/-- Every rule of `Step` moves one process `p` to some `c` and sets the shared state to some `o`, `b`, `st`.  The
invariant survives if the shared state is left alone while any other process is inside the critical section (`frame`)
and the new shared state gives `p` what each field of `Inv` asks of a process at `c` (the other four hypotheses). -/
theorem Inv.update {s : State} (h : Inv s) (p : Pid) (c : PC) (o : Option Pid) (b : Bin) (st : Option Ver)
    (frame : ∀ q, q ≠ p → inCS (s.pc q) = true → o = s.owner ∧ b = s.bin ∧ st = s.stamp)
    (owns : inCS c = true → o = some p)
    (haveBin : c = .built ∨ c = .stamped ∨ c = .running → b = .complete (s.ver p))
    (stampOK : ∀ v, st = some v → b = .complete v)
    (noStamp : c = .building → st = none) :
    Inv (setPc { s with owner := o, bin := b, stamp := st } p c) := by
  refine ⟨fun q hq => ?_, fun q hq => ?_, stampOK, fun q hq => ?_⟩ <;> obtain rfl | e := Decidable.em (q = p)
  · exact owns (pc_setPc_self _ q c ▸ hq)
  · rw [pc_setPc_other _ _ _ _ e] at hq
    exact (frame q e hq).1.trans (h.owns q hq)
  · exact haveBin (pc_setPc_self _ q c ▸ hq)
  · rw [pc_setPc_other _ _ _ _ e] at hq
    have hin : inCS (s.pc q) = true := by rcases hq with hq | hq | hq <;> exact hq ▸ rfl
    exact (frame q e hin).2.1.trans (h.haveBin q hq)
  · exact noStamp (pc_setPc_self _ q c ▸ hq)
  · rw [pc_setPc_other _ _ _ _ e] at hq
    exact (frame q e (hq ▸ rfl)).2.2.trans (h.noStampWhileBuilding q hq)

/-- the invariant survives every step of every process, including crashes at any point -/
theorem inv_step (s t : State) (h : Inv s) (st : Step s t) : Inv t := by
  -- a process inside the critical section is alone there, so it may change the shared state
  have alone {p : Pid} (hp : inCS (s.pc p) = true) {a : Prop} (q : Pid) (e : q ≠ p) (hq : inCS (s.pc q) = true) : a :=
    absurd (mutex s h q p hq hp) e
  cases st with
  | lock p _ ho =>
    -- the lock is free, so nobody is inside; `checking` asks nothing of `bin` and `stamp`
    exact h.update p _ _ _ _ (frame := fun q _ hq => nomatch (h.owns q hq).symm.trans ho) (owns := fun _ => rfl)
      (haveBin := nofun) (stampOK := h.stampOK) (noStamp := nofun)
  | reuse p hpc hok =>
    -- `linkerOK` says that the binary `p` is going to run is complete
    have hin : inCS (s.pc p) = true := hpc ▸ rfl
    exact h.update p _ _ _ _ (frame := alone hin) (owns := fun _ => h.owns p hin)
      (haveBin := fun _ => eq_of_beq (Bool.and_eq_true_iff.1 hok).2) (stampOK := h.stampOK) (noStamp := nofun)
  | startBuild p hpc _ =>
    -- the stamp is removed with the binary, so nothing is claimed of the partial one
    have hin : inCS (s.pc p) = true := hpc ▸ rfl
    exact h.update p _ _ _ _ (frame := alone hin) (owns := fun _ => h.owns p hin)
      (haveBin := nofun) (stampOK := nofun) (noStamp := fun _ => rfl)
  | finishBuild p hpc =>
    -- there is no stamp while `p` builds, hence none that could disagree with the new binary
    have hin : inCS (s.pc p) = true := hpc ▸ rfl
    have hns := h.noStampWhileBuilding p hpc
    exact h.update p _ _ _ _ (frame := alone hin) (owns := fun _ => h.owns p hin)
      (haveBin := fun _ => rfl) (stampOK := fun _ hv => nomatch hns.symm.trans hv) (noStamp := nofun)
  | writeStamp p hpc =>
    -- the stamp written is that of the binary `p` has built
    have hin : inCS (s.pc p) = true := hpc ▸ rfl
    have hb := h.haveBin p (.inl hpc)
    exact h.update p _ _ _ _ (frame := alone hin) (owns := fun _ => h.owns p hin)
      (haveBin := fun _ => hb) (stampOK := fun _ hv => Option.some.inj hv ▸ hb) (noStamp := nofun)
  | toRun p hpc =>
    have hin : inCS (s.pc p) = true := hpc ▸ rfl
    exact h.update p _ _ _ _ (frame := alone hin) (owns := fun _ => h.owns p hin)
      (haveBin := fun _ => h.haveBin p (.inr (.inl hpc))) (stampOK := h.stampOK) (noStamp := nofun)
  | unlock p hpc =>
    -- `done` asks nothing
    exact h.update p _ _ _ _ (frame := alone (hpc ▸ rfl)) (owns := nofun)
      (haveBin := nofun) (stampOK := h.stampOK) (noStamp := nofun)
  | crash p _ _ =>
    -- `dead` asks nothing, and the lock of another process is not released
    refine h.update p _ _ _ _ (frame := fun q e hq => ⟨?_, rfl, rfl⟩) (owns := nofun)
      (haveBin := nofun) (stampOK := h.stampOK) (noStamp := nofun)
    rw [h.owns q hq, if_neg fun e' => e (Option.some.inj e')]

theorem inv_reach (s t : State) (h : Inv s) (r : Reach s t) : Inv t := by
  induction r with
  | refl => exact h
  | step _ st ih => exact inv_step _ _ ih st

/-- **the patched linker is never used half-written**: in every state reachable from any initial cache directory
state by any interleaving of any number of processes (and any crashes), a process that is about to run / running the
linker finds the complete binary of its own version -/
theorem running_has_complete_linker (ver : Pid → Ver) (bin : Bin) (stamp : Option Ver)
    (h0 : ∀ v, stamp = some v → bin = .complete v) (t : State) (r : Reach (initial ver bin stamp) t)
    (p : Pid) (hp : t.pc p = .running) : t.bin = .complete (t.ver p) :=
  (inv_reach _ _ (inv_initial ver bin stamp h0) r).haveBin p (Or.inr (Or.inr hp))

/-- **mutual exclusion**: no two processes are between lock and unlock at the same time -/
theorem mutual_exclusion (ver : Pid → Ver) (bin : Bin) (stamp : Option Ver)
    (h0 : ∀ v, stamp = some v → bin = .complete v) (t : State) (r : Reach (initial ver bin stamp) t)
    (p q : Pid) (hp : inCS (t.pc p) = true) (hq : inCS (t.pc q) = true) : p = q :=
  mutex t (inv_reach _ _ (inv_initial ver bin stamp h0) r) p q hp hq

/-- sanity (the invariant is not trivially true): it forbids the state that arises when a second process starts
rebuilding while the first is running the linker, as `lock` would allow without its requirement that the lock is free -/
example : ∃ s : State, s.pc 0 = .running ∧ s.pc 1 = .building ∧ s.bin = .part 7 ∧ ¬ Inv s :=
  ⟨{ owner := some 0, bin := .part 7, stamp := none, pc := fun q => if q = 0 then .running else if q = 1 then .building else .idle, ver := fun _ => 7 },
   rfl, rfl, rfl, fun h => nomatch h.haveBin 0 (.inr (.inr rfl))⟩

end GV.Props.C17
