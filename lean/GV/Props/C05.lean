import GV.Model.Literals
import GV.Proofs.ListLemmas
/-
C05 — Obfuscated literals evaluate to their original values.

For EVERY plaintext (any length, any bytes) and EVERY outcome of the random draws that satisfies the explicit
well-formedness side conditions, the decoder each obfuscator emits evaluates to the plaintext.
-/
namespace GV.Props.C05
open GV.Literals

/-- the decoder's operator undoes the encoder's, for all bytes (evalOperator vs operatorToReversedBinaryExpr) -/
theorem rev_eval (op : Op) (x k : UInt8) : op.rev.eval (op.eval x k) k = x := by
  cases op
  · simp [Op.rev, Op.eval, UInt8.xor_assoc]
  · simp [Op.rev, Op.eval]
  · simp [Op.rev, Op.eval]

/-! ### `getAt` / `setAt`: Go's `d[i]` and `d[i] = v` on a byte slice, total (out of range: 0 / no-op) -/

theorem getAt_eq_getElem (d : Bytes) (i : Nat) (h : i < d.length) : getAt d i = d[i] := by
  simp [getAt, h]

theorem getAt_of_length_le (d : Bytes) (i : Nat) (h : d.length ≤ i) : getAt d i = 0 := by
  simp [getAt, h]

theorem setAt_length (d : Bytes) (i : Nat) (v : UInt8) : (setAt d i v).length = d.length :=
  List.length_set

theorem setAt_of_length_le (d : Bytes) (i : Nat) (v : UInt8) (h : d.length ≤ i) : setAt d i v = d :=
  List.set_eq_of_length_le h

theorem getAt_setAt_same (d : Bytes) (i : Nat) (v : UInt8) (h : i < d.length) : getAt (setAt d i v) i = v := by
  simp [getAt, setAt, h]

theorem getAt_setAt_ne (d : Bytes) (i j : Nat) (v : UInt8) (h : i ≠ j) : getAt (setAt d i v) j = getAt d j := by
  simp [getAt, setAt, h]

theorem setAt_setAt_same (d : Bytes) (i : Nat) (v w : UInt8) : setAt (setAt d i v) i w = setAt d i w :=
  List.set_set v

theorem setAt_comm (d : Bytes) (i j : Nat) (v w : UInt8) (h : i ≠ j) : setAt (setAt d i v) j w = setAt (setAt d j w) i v :=
  List.set_comm v w h

theorem setAt_getAt (d : Bytes) (i : Nat) : setAt d i (getAt d i) = d := by
  by_cases h : i < d.length
  · rw [getAt_eq_getElem d i h]
    exact List.set_getElem_self h
  · exact setAt_of_length_le d i _ (Nat.le_of_not_lt h)

theorem getAt_append_left (a b : Bytes) (i : Nat) (h : i < a.length) : getAt (a ++ b) i = getAt a i := by
  simp [getAt, List.getElem?_append_left h]

theorem getAt_append_right (a b : Bytes) (n i : Nat) (h : a.length = n) : getAt (a ++ b) (n + i) = getAt b i := by
  simp [getAt, List.getElem?_append_right, ← h]

theorem getAt_map_range (f : Nat → UInt8) (n i : Nat) (h : i < n) : getAt ((List.range n).map f) i = f i := by
  simp [getAt, h]

theorem map_getAt_range (d : Bytes) : (List.range d.length).map (getAt d) = d := by
  apply List.ext_getElem (by simp)
  intro i h _
  simp only [List.length_map, List.length_range] at h
  simp only [List.getElem_map, List.getElem_range, getAt_eq_getElem d i h]

/-- undoing one key operation (any index, also out of range, where both are no-ops) -/
theorem applyKeyOp_undo (keys : List ExtKey) (d : Bytes) (o : KeyOp) :
    applyKeyOp keys (applyKeyOp keys d o) { o with op := o.op.rev } = d := by
  unfold applyKeyOp
  by_cases h : o.idx < d.length
  · simp only [getAt_setAt_same d o.idx _ h, rev_eval, setAt_setAt_same, setAt_getAt]
  · simp only [setAt_of_length_le d o.idx _ (Nat.le_of_not_lt h)]

/-- **ext-key operations are undone by the reversed statement list** — any number of operations, any repetition of
indexes (the reason for `slices.Reverse(stmts)`), any keys -/
theorem slicelit_roundtrip (keys : List ExtKey) : ∀ (ops : List KeyOp) (data : Bytes),
    (buildSliceLit keys data ops).eval keys = data := by
  intro ops
  induction ops with
  | nil => intro data; rfl
  | cons o ops ih =>
    intro data
    have := ih (applyKeyOp keys data o)
    unfold buildSliceLit SliceLit.eval at this ⊢
    simp only [List.foldl_cons, List.map_cons, List.reverse_cons, List.foldl_append]
    rw [this]
    exact applyKeyOp_undo keys data o

/-- a byte hidden behind a key evaluates to the byte -/
theorem byteexpr_roundtrip (keys : List ExtKey) (v : UInt8) (c : Option (Op × Nat × Nat)) :
    (buildByteExpr keys v c).eval keys = v := by
  cases c with
  | none => rfl
  | some t => exact rev_eval t.1 v _

theorem zipOp_undo (op : Op) : ∀ (d k : Bytes), zipOp op.rev (zipOp op d k) k = d
  | [], [] => rfl
  | [], _ :: _ => rfl
  | _ :: _, [] => rfl
  | x :: d, y :: k => by simp only [zipOp, rev_eval, zipOp_undo op d k]

-- `h` is not needed: `zipOp` leaves the rest of the data alone when the key is shorter and stops at the end of the
-- data when it is longer, in the encoder as in the decoder; every emitted program has key and data of equal length
set_option linter.unusedVariables false in
/-- **simple**: for every plaintext, key of the same length, operator and ext-key operations -/
theorem simple_roundtrip (keys : List ExtKey) (data key : Bytes) (op : Op) (keyOps dataOps : List KeyOp)
    (h : data.length = key.length) : (buildSimple keys data key op keyOps dataOps).eval keys = data := by
  unfold buildSimple SimpleDec.eval
  simp only [slicelit_roundtrip]
  exact zipOp_undo op data key

theorem seed_core (op : Op) : ∀ (data : Bytes) (s : UInt8), seedRun op.rev s (seedEnc op s data) = data
  | [], _ => rfl
  | b :: bs, s => by simp only [seedEnc, seedRun, rev_eval, seed_core op bs]

theorem zipBuild_eval (keys : List ExtKey) : ∀ (vs : Bytes) (cs : List (Option (Op × Nat × Nat))),
    (zipBuild keys vs cs).map (ByteExpr.eval keys) = vs
  | [], _ => by simp only [zipBuild, List.map_nil]
  | v :: vs, [] => by simp only [zipBuild, List.map_cons, ByteExpr.eval, zipBuild_eval keys vs]
  | v :: vs, c :: cs => by simp only [zipBuild, List.map_cons, byteexpr_roundtrip, zipBuild_eval keys vs]

/-- **seed**: for every plaintext, initial seed, operator and per-byte key choices -/
theorem seed_roundtrip (keys : List ExtKey) (data : Bytes) (seed : UInt8) (op : Op) (sc : Option (Op × Nat × Nat))
    (choices : List (Option (Op × Nat × Nat))) : (buildSeed keys data seed op sc choices).eval keys = data := by
  unfold buildSeed SeedDec.eval
  simp only [byteexpr_roundtrip, zipBuild_eval]
  exact seed_core op data seed

theorem swapStep_length (op : Op) (s : UInt8) (d : Bytes) (i p q : Nat) : (swapStep op s d i p q).length = d.length := by
  simp only [swapStep, setAt_length]

/-- one decoder step undoes one encoder step, for positions inside the data, also when both positions coincide -/
theorem swapStep_undo (op : Op) (s : UInt8) (d : Bytes) (i p q : Nat) (hp : p < d.length) (hq : q < d.length) :
    swapStep op.rev s (swapStep op s d i p q) i p q = d := by
  unfold swapStep
  by_cases hpq : p = q
  · subst hpq
    simp only [setAt_setAt_same, getAt_setAt_same d p _ hp, rev_eval, setAt_getAt]
  · have hqp : q ≠ p := Ne.symm hpq
    -- the decoder reads the two bytes the encoder stored
    simp only [getAt_setAt_same _ q _ ((setAt_length d p _).symm ▸ hq), getAt_setAt_ne _ q p _ hqp,
      getAt_setAt_same d p _ hp, rev_eval]
    -- and each of its stores overwrites the encoder's store at the same position
    rw [setAt_comm _ p q _ _ hpq, setAt_setAt_same, setAt_comm _ q p _ _ hqp, setAt_setAt_same, setAt_getAt, setAt_getAt]

def AllLt (n : Nat) (l : List Nat) : Prop := ∀ x ∈ l, x < n

theorem swapEncode_length (op : Op) (s : UInt8) : ∀ (ps : List Nat) (i : Nat) (d : Bytes),
    (swapEncode op s i ps d).length = d.length
  | [], _, _ => rfl
  | [_], _, _ => rfl
  | p :: q :: rest, i, d => by rw [swapEncode, swapStep_length, swapEncode_length op s rest (i + 2) d]

/-- **swap**: the forward loop of the decoder undoes the backward loop of the encoder — for every plaintext, every
list of in-range positions (any length, repetitions allowed), every shift key and operator -/
theorem swap_core (op : Op) (s : UInt8) : ∀ (ps : List Nat) (i : Nat) (d : Bytes), AllLt d.length ps →
    swapDecode op.rev s i ps (swapEncode op s i ps d) = d
  | [], _, _, _ => rfl
  | [_], _, _, _ => rfl
  | p :: q :: rest, i, d, h => by
    obtain ⟨hp, hq, hr⟩ : p < d.length ∧ q < d.length ∧ AllLt d.length rest := by
      simpa only [AllLt, List.forall_mem_cons] using h
    have hl := swapEncode_length op s rest (i + 2) d
    -- `rw`, not `simp only`: that unfolds `swapDecode` by `rfl`, and the check that `swapDecode … (p :: q :: rest) _`
    -- is `swapDecode … rest _` compares the arguments before it unfolds, at eight times the cost
    rw [swapEncode, swapDecode, swapStep_undo op s _ i p q (hl ▸ hp) (hl ▸ hq)]
    exact swap_core op s rest (i + 2) d hr

theorem swap_roundtrip (keys : List ExtKey) (data : Bytes) (positions : List Nat) (shift : UInt8) (op : Op)
    (dataOps : List KeyOp) (sc : Option (Op × Nat × Nat)) (h : AllLt data.length positions) :
    (buildSwap keys data positions shift op dataOps sc).eval keys = data := by
  unfold buildSwap SwapDec.eval
  simp only [slicelit_roundtrip, byteexpr_roundtrip]
  exact swap_core op shift positions 0 data h

/-- non-vacuity: the side condition is what `genRandIntSlice(rand, len(data), n)` produces (`Intn(max) < max`) -/
example : AllLt 3 [2, 0, 1, 1, 0, 2] := by
  unfold AllLt
  decide

/-- the side conditions on the drawn permutation (`rand.Perm(len(fullData))`) -/
structure PermOK (n : Nat) (perm : List Nat) : Prop where
  len : perm.length = n
  lt : ∀ i, i < n → perm.getD i 0 < n
  inj : ∀ i j, i < n → j < n → perm.getD i 0 = perm.getD j 0 → i = j

/-- the loop of `scatter` after `m` rounds: the array keeps its length, and the first `m` bytes of `full` sit at the
positions the permutation gives them (no later round writes there: `PermOK.inj`) -/
theorem scatter_prefix (perm : List Nat) (full : Bytes) (hp : PermOK full.length perm) :
    ∀ m, m ≤ full.length →
      let acc := (List.range m).foldl (fun acc i => setAt acc (perm.getD i 0) (getAt full i)) (List.replicate full.length 0)
      acc.length = full.length ∧ ∀ j, j < m → getAt acc (perm.getD j 0) = getAt full j := by
  intro m
  induction m with
  | zero => exact fun _ => ⟨List.length_replicate, fun j hj => absurd hj (Nat.not_lt_zero j)⟩
  | succ m ih =>
    intro hm
    have ⟨hl, hg⟩ := ih (Nat.le_of_succ_le hm)
    simp only [List.range_succ, List.foldl_append, List.foldl_cons, List.foldl_nil]
    refine ⟨(setAt_length _ _ _).trans hl, fun j hj => ?_⟩
    by_cases hjm : j = m
    · subst hjm
      exact getAt_setAt_same _ _ _ (hl.symm ▸ hp.lt j hm)
    · have hjm' : j < m := Nat.lt_of_le_of_ne (Nat.le_of_lt_succ hj) hjm
      have hne : perm.getD m 0 ≠ perm.getD j 0 := fun e => hjm (hp.inj m j hm (Nat.lt_trans hjm' hm) e).symm
      rw [getAt_setAt_ne _ _ _ _ hne]
      exact hg j hjm'

theorem scatter_get (perm : List Nat) (full : Bytes) (n : Nat) (hn : full.length = n) (hp : PermOK n perm) (j : Nat)
    (hj : j < n) : getAt (scatter perm full) (perm.getD j 0) = getAt full j := by
  subst hn
  exact (scatter_prefix perm full hp full.length (Nat.le_refl _)).2 j hj

/-- **shuffle**: for every plaintext, key and index key, every operator list, every permutation of the doubled
array and every choice of index-key positions -/
theorem shuffle_roundtrip (keys : List ExtKey) (data key idxKey : Bytes) (ops : List Op) (perm kis : List Nat)
    (fullOps idxOps : List KeyOp) (hk : key.length = data.length) (hp : PermOK (data.length + data.length) perm) :
    (buildShuffle keys data key idxKey ops perm kis fullOps idxOps).eval keys = data := by
  unfold buildShuffle ShuffleDec.eval
  simp only [slicelit_roundtrip, List.map_map, Function.comp_def, Nat.xor_cancel_right]
  refine Eq.trans (List.map_congr_left fun i hi => ?_) (map_getAt_range data)
  have hi : i < data.length := List.mem_range.mp hi
  have he : ∀ f : Nat → UInt8, ((List.range data.length).map f).length = data.length := fun f => by
    rw [List.length_map, List.length_range]
  have hn : ∀ f : Nat → UInt8, ((List.range data.length).map f ++ key).length = data.length + data.length := fun f => by
    rw [List.length_append, he, hk]
  -- byte `i` decodes from position `perm[i]` (byte `i` of the ciphertext) and `perm[n + i]` (byte `i` of the key)
  rw [scatter_get perm _ _ (hn _) hp i (Nat.lt_add_right _ hi),
    scatter_get perm _ _ (hn _) hp (data.length + i) (Nat.add_lt_add_left hi _),
    getAt_append_left _ key i ((he _).symm ▸ hi), getAt_append_right _ key _ i (he _), getAt_map_range _ _ i hi, rev_eval]

/-- non-vacuity: a permutation of 0..3 meets `PermOK` -/
example : PermOK 4 [2, 0, 3, 1] :=
  ⟨rfl, by decide, fun i j hi hj =>
    (by decide : ∀ i, i < 4 → ∀ j, j < 4 → [2, 0, 3, 1].getD i 0 = [2, 0, 3, 1].getD j 0 → i = j) i hi j hj⟩

/-- `string(x[lo:lo+n])` on `junk₁ ++ data ++ junk₂` with lo = |junk₁|, n = |data| (obfuscateString) -/
theorem junk_slice (j1 d j2 : Bytes) : ((j1 ++ d ++ j2).drop j1.length).take d.length = d := by
  simp

/-- the byte-array form: copying the decoded bytes into a zeroed `[N]byte` gives the literal padded with zeros -/
def toArray (n : Nat) (d : Bytes) : Bytes := (List.range n).map fun i => getAt d i

theorem array_copy (n : Nat) (d : Bytes) (h : d.length ≤ n) : toArray n d = d ++ List.replicate (n - d.length) 0 := by
  unfold toArray
  apply List.ext_getElem
  · simp [Nat.add_sub_cancel' h]
  · intro i _ _
    rw [List.getElem_map, List.getElem_range, List.getElem_append]
    split
    · next hi => exact getAt_eq_getElem d i hi
    · next hi => rw [List.getElem_replicate, getAt_of_length_le d i (Nat.le_of_not_lt hi)]

/-! ### split

Two independent halves.  Decrypting undoes encrypting as soon as the run-time key (an `int`) and the encoder's key (a
`byte`) agree in the low byte: `decryptAll_encChunks`, `dk_low_byte`.  The emitted loop visits its cases in order, then
the decrypt case, then stops, whatever the decoder: `splitRun_walk`.  `split_roundtrip` puts the decoder of `buildSplit`
into the second and applies the first. -/

theorem encFrom_append (op : Op) (key : UInt8) : ∀ (a b : Bytes) (off : Nat),
    encFrom op key off (a ++ b) = encFrom op key off a ++ encFrom op key (off + a.length) b
  | [], b, off => rfl
  | x :: a, b, off => by
    simp only [List.cons_append, encFrom, List.length_cons, encFrom_append op key a b (off + 1), Nat.add_assoc,
      Nat.add_comm 1]

theorem encChunks_flatten (op : Op) (key : UInt8) : ∀ (cs : List Bytes) (off : Nat),
    (encChunks op key off cs).flatten = encFrom op key off cs.flatten
  | [], off => rfl
  | c :: cs, off => by
    simp only [encChunks, List.flatten_cons]
    rw [encChunks_flatten op key cs, encFrom_append]

theorem encFrom_length (op : Op) (key : UInt8) : ∀ (d : Bytes) (off : Nat), (encFrom op key off d).length = d.length
  | [], _ => rfl
  | _ :: r, off => by simp [encFrom, encFrom_length op key r]

theorem encChunks_length (op : Op) (key : UInt8) : ∀ (cs : List Bytes) (off : Nat), (encChunks op key off cs).length = cs.length
  | [], _ => rfl
  | _ :: cs, off => by simp [encChunks, encChunks_length op key cs]

/-- the decrypt case undoes `encryptChunks`, when the run-time key agrees with the encoder's key in its low byte -/
theorem decrypt_undo (op : Op) (key : UInt8) (dk : Nat) (hk : UInt8.ofNat dk = key) : ∀ (d : Bytes) (off : Nat),
    ((encFrom op key off d).zipIdx off).map (fun (p : UInt8 × Nat) => op.rev.eval p.1 (UInt8.ofNat ((dk ^^^ p.2) % 256))) = d
  | [], _ => rfl
  | b :: r, off => by
    simp only [encFrom, List.zipIdx_cons, List.map_cons]
    rw [decrypt_undo op key dk hk r (off + 1), UInt8.ofNat_mod_size, UInt8.ofNat_xor, hk, rev_eval]

theorem decryptAll_encChunks (op : Op) (key : UInt8) (dk : Nat) (hk : UInt8.ofNat dk = key) (cs : List Bytes) :
    decryptAll op.rev dk (encChunks op key 0 cs).flatten = cs.flatten := by
  rw [encChunks_flatten]
  exact decrypt_undo op key dk hk cs.flatten 0

/-- the run-time `decryptKey` (an int) after `k` iterations of the loop -/
def dkNat (keyInit : Nat) (idx : List Nat) : Nat → Nat
  | 0 => keyInit
  | k + 1 => dkNat keyInit idx k ^^^ (idx.getD k 0 * k)

/-- ... agrees in its low byte with the key the encoder computed in byte arithmetic -/
theorem dk_low_byte (ki : UInt8) (idx : List Nat) : ∀ k, UInt8.ofNat (dkNat ki.toNat idx k) = splitKeyUpTo ki idx k
  | 0 => by simp [dkNat, splitKeyUpTo]
  | k + 1 => by simp only [dkNat, splitKeyUpTo, UInt8.ofNat_xor, dk_low_byte ki idx k]

theorem splitRun_exit {s : SplitDec} {keys : List ExtKey} {fuel counter dk : Nat} {data : Bytes} :
    splitRun s keys (fuel + 1) s.exitIndex counter dk data = some data := by
  rw [splitRun, beq_self_eq_true, if_pos rfl]

theorem splitRun_decrypt {s : SplitDec} {keys : List ExtKey} {fuel i counter dk : Nat} {data : Bytes}
    (h1 : i ≠ s.exitIndex) (h2 : i = s.decryptIndex) :
    splitRun s keys (fuel + 1) i counter dk data =
      splitRun s keys fuel s.exitIndex (counter + 1) (dk ^^^ (i * counter)) (decryptAll s.op (dk ^^^ (i * counter)) data) := by
  rw [splitRun, beq_false_of_ne h1, if_neg Bool.false_ne_true, beq_iff_eq.mpr h2, if_pos rfl]

theorem splitRun_case {s : SplitDec} {keys : List ExtKey} {fuel i counter dk : Nat} {data : Bytes} {c : Case}
    (h1 : i ≠ s.exitIndex) (h2 : i ≠ s.decryptIndex) (hc : s.cases.find? (·.index == i) = some c) :
    splitRun s keys (fuel + 1) i counter dk data =
      splitRun s keys fuel c.next (counter + 1) (dk ^^^ (i * counter)) (data ++ c.chunk.eval keys) := by
  rw [splitRun, beq_false_of_ne h1, if_neg Bool.false_ne_true, beq_false_of_ne h2, if_neg Bool.false_ne_true, hc]

theorem take_succ_flatten (l : List Bytes) (k : Nat) (hk : k < l.length) :
    (l.take (k + 1)).flatten = (l.take k).flatten ++ l.getD k [] := by
  rw [List.take_add_one, List.flatten_append, List.getD_eq_getElem?_getD, List.getElem?_eq_getElem hk]
  simp

/-- **the emitted switch walks its cases in order**, for any decoder `s`: let the states `idx[0], …, idx[n+1]` be
distinct, let state `idx[k]`, `k < n`, select a case that appends `enc[k]` and moves to `idx[k+1]`, let `idx[n]` be the
decrypt state and `idx[n+1]` the exit.  Then from state `idx[k]`, the first `k` chunks collected, the loop collects the
other `m`, decrypts all of it with the key as it stands after `n + 1` rounds and stops, within `m + 2` iterations. -/
theorem splitRun_walk (s : SplitDec) (keys : List ExtKey) (idx : List Nat) (enc : List Bytes) (n key0 : Nat)
    (nd : idx.Nodup) (hlen : n + 2 ≤ idx.length) (henc : enc.length = n)
    (hdec : s.decryptIndex = idx.getD n 0) (hexit : s.exitIndex = idx.getD (n + 1) 0)
    (hcase : ∀ k, k < n → ∃ c, s.cases.find? (·.index == idx.getD k 0) = some c ∧
      c.next = idx.getD (k + 1) 0 ∧ c.chunk.eval keys = enc.getD k []) :
    ∀ m k extra, k + m = n →
      splitRun s keys (extra + m + 2) (idx.getD k 0) k (dkNat key0 idx k) (enc.take k).flatten =
        some (decryptAll s.op (dkNat key0 idx (n + 1)) enc.flatten) := by
  subst henc
  have hn1 : enc.length + 1 < idx.length := hlen
  have hn : enc.length < idx.length := Nat.lt_of_succ_lt hn1
  intro m
  induction m with
  | zero =>
    intro k extra hk
    obtain rfl : k = enc.length := hk
    have hne : idx.getD enc.length 0 ≠ s.exitIndex :=
      hexit ▸ mt (List.getD_inj hn hn1 nd).mp (Nat.ne_of_lt (Nat.lt_succ_self _))
    -- `trans`, not `rw`: the fuel `extra + m + 2` is a successor only up to unfolding `+` (which is why `extra` comes
    -- first: then the fuel left after a step of `m + 1` and the fuel of `m` agree by computation)
    refine (splitRun_decrypt hne hdec.symm).trans ?_
    rw [splitRun_exit, List.take_length]
    rfl
  | succ m ih =>
    intro k extra hk
    have hkn : k < enc.length := Nat.lt_of_lt_of_eq (Nat.lt_add_of_pos_right (Nat.succ_pos m)) hk
    have hki : k < idx.length := Nat.lt_trans hkn hn
    obtain ⟨c, hc, hnext, hchunk⟩ := hcase k hkn
    have hne1 : idx.getD k 0 ≠ s.exitIndex :=
      hexit ▸ mt (List.getD_inj hki hn1 nd).mp (Nat.ne_of_lt (Nat.lt_succ_of_lt hkn))
    have hne2 : idx.getD k 0 ≠ s.decryptIndex := hdec ▸ mt (List.getD_inj hki hn nd).mp (Nat.ne_of_lt hkn)
    refine (splitRun_case hne1 hne2 hc).trans ?_
    rw [hnext, hchunk, ← take_succ_flatten enc k hkn]
    exact ih (k + 1) extra (by omega)

theorem chunkLit_eval (keys : List ExtKey) (e : Bytes) (ops : List KeyOp) (choice : Option (Op × Nat × Nat)) :
    (chunkLit keys e ops choice).eval keys = e := by
  unfold chunkLit
  split
  · simp only [Chunk.eval, byteexpr_roundtrip]
  · simp only [Chunk.eval, slicelit_roundtrip]

/-- looking up `idx[k]` among the first `n` entries of a duplicate-free `idx` finds position `k` -/
theorem find?_range_getD (idx : List Nat) (nd : idx.Nodup) (n k : Nat) (hn : n ≤ idx.length) (hk : k < n) :
    (List.range n).find? (fun i => idx.getD i 0 == idx.getD k 0) = some k := by
  rw [List.find?_range_eq_some]
  refine ⟨beq_self_eq_true _, List.mem_range.mpr hk, fun j hj => ?_⟩
  have hkl : k < idx.length := Nat.lt_of_lt_of_le hk hn
  rw [beq_false_of_ne (mt (List.getD_inj (Nat.lt_trans hj hkl) hkl nd).mp (Nat.ne_of_lt hj))]
  rfl

/-- **split round trip**: for EVERY chunking of the data, every permutation of case indexes, every initial key,
operator and ext-key choice, the emitted state machine terminates and yields the original bytes -/
theorem split_roundtrip (keys : List ExtKey) (p : SplitPlan)
    (hlen : p.indexes.length = p.chunks.length + 2) (nd : p.indexes.Nodup) :
    (buildSplit keys p).eval keys = some p.chunks.flatten := by
  have hcases : (buildSplit keys p).cases.length = p.chunks.length := by
    simp only [buildSplit, List.length_map, List.length_range]
  have walk := splitRun_walk (buildSplit keys p) keys p.indexes _ p.chunks.length p.keyInit.toNat nd
    (Nat.le_of_eq hlen.symm) (encChunks_length p.op (splitKeyUpTo p.keyInit p.indexes (p.chunks.length + 1)) p.chunks 0)
    rfl rfl ?_ p.chunks.length 0 1 (Nat.zero_add _)
  · unfold SplitDec.eval
    rw [hcases, show (buildSplit keys p).decryptKey.eval keys = p.keyInit from byteexpr_roundtrip keys _ _]
    rw [Nat.add_comm 1] at walk
    exact walk.trans (congrArg some (decryptAll_encChunks p.op _ _ (dk_low_byte _ _ _) p.chunks))
  · -- the switch finds the `k`-th case on state `indexes[k]`: the cases are `List.range n` mapped, in index order
    intro k hk
    have hf := find?_range_getD p.indexes nd _ k (by omega) hk
    simp only [buildSplit, List.find?_map, Function.comp_def, hf, Option.map_some, Option.some.injEq, exists_eq_left',
      chunkLit_eval, and_self]

/-- non-vacuity: a concrete plan meets the hypotheses and decodes -/
example : (buildSplit [] { chunks := [[1, 2], [3], [4, 5, 6]], indexes := [3, 0, 4, 1, 2], keyInit := 77, op := .add, sliceOps := [], byteChoices := [], keyChoice := none }).eval [] = some [1, 2, 3, 4, 5, 6] := by decide

end GV.Props.C05
