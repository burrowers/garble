import GV.Model.Scope
import GV.Proofs.Naming
/-
C14 — GOGARBLE selects exactly which packages are obfuscated.
-/
namespace GV.Props.C14
open GV.Scope GV.Naming GV.Salt

/-- **scope exact**: a package is obfuscated iff it is not the runtime or one of its dependencies (nor runtime/cgo, nor
a fips140 package), has Go files, and is a test main, the command-line-arguments package, an unnamed plugin, or
matches GOGARBLE -/
theorem scope_exact (gg : Bytes) (p : Listed) :
    toObfuscate gg p = true ↔
      (neverObfuscated (decisionPath p) = false ∧ p.nGoFiles ≠ 0 ∧
        (alwaysObfuscated p (decisionPath p) = true ∨ matchPrefixPatterns gg (decisionPath p) = true)) := by
  simp [toObfuscate]

/-- **the runtime and its dependencies are never obfuscated**, whatever GOGARBLE says (also `GOGARBLE=*`) -/
theorem runtime_never (gg : Bytes) (p : Listed) (h : inList GV.Gen.runtimeAndDeps (decisionPath p) = true) :
    toObfuscate gg p = false := by
  simp [toObfuscate, neverObfuscated, h]

theorem inList_of_mem {l : List String} {s : String} (h : s ∈ l) : inList l (str s) = true :=
  List.any_eq_true.mpr ⟨s, h, beq_self_eq_true _⟩

/-- the regenerated table does contain the runtime itself and the packages the property names -/
theorem runtime_in_table : inList GV.Gen.runtimeAndDeps (str "runtime") = true ∧
    inList GV.Gen.runtimeAndDeps (str "internal/abi") = true ∧ inList GV.Gen.runtimeAndDeps (str "unsafe") = true := by
  -- looked up as strings: comparing the byte lists would encode every entry of the table
  have h : "runtime" ∈ GV.Gen.runtimeAndDeps ∧ "internal/abi" ∈ GV.Gen.runtimeAndDeps ∧
      "unsafe" ∈ GV.Gen.runtimeAndDeps := by
    decide +kernel
  exact ⟨inList_of_mem h.1, inList_of_mem h.2.1, inList_of_mem h.2.2⟩

/-- **foo_test follows foo**: a test variant (`ForTest = foo`) is decided on foo's path, so the external test package
and the package recompiled for the test are in scope exactly when GOGARBLE matches foo, provided the tests that do not
look at GOGARBLE (`alwaysObfuscated`: test main, command-line-arguments, unnamed plugin) answer alike for both (`ha`) -/
theorem fortest_follows (gg : Bytes) (p q : Listed) (hf : p.forTest = q.importPath) (hq : q.forTest = [])
    (hne : q.importPath ≠ []) (hn : p.nGoFiles ≠ 0) (hm : q.nGoFiles ≠ 0)
    (ha : alwaysObfuscated p q.importPath = alwaysObfuscated q q.importPath) :
    toObfuscate gg p = toObfuscate gg q := by
  have hp : decisionPath p = q.importPath := by
    simp only [decisionPath, hf, List.isEmpty_iff, hne, if_false]
  have hq' : decisionPath q = q.importPath := by
    simp only [decisionPath, hq, List.isEmpty_nil, if_true]
  simp only [toObfuscate, hp, hq', ha, beq_iff_eq, hn, hm]

/-- **out of scope ⇒ untouched names**: every object of a package that is not to be obfuscated keeps its name, the
package keeps its import path and its package name (positions and literals are guarded by the same flag in
printFile / transformGoFile; that guard is exercised by the tie) -/
theorem out_of_scope_names (env : Env) (o : Obj) (path : Bytes) (lp : Pkg)
    (hp : o.pkgPath = some path) (hl : env.lookup path = .found lp) (hn : lp.toObfuscate = false) :
    decideObj env o = .keep :=
  decideObj_not_obfuscated hp hl hn

theorem out_of_scope_import_path (cfg : Cfg) (lp : Pkg) (hn : lp.toObfuscate = false)
    (hm : ¬ (lp.name = str "main" ∧ lp.forTest = [])) : obfImportPath cfg lp = some lp.path := by
  have : (lp.name == str "main" && lp.forTest.isEmpty) = false := by
    simpa only [← Bool.not_eq_true, Bool.and_eq_true, beq_iff_eq, List.isEmpty_iff] using hm
  simp only [obfImportPath, this, hn, Bool.not_false, Bool.false_eq_true, if_true, if_false]

theorem out_of_scope_package_name (cfg : Cfg) (lp : Pkg) (cls) (hn : lp.toObfuscate = false) :
    obfPackageName cfg lp cls = some lp.name := by
  simp [obfPackageName, hn]

/-- **nothing matches ⇒ error**: if no listed package is in scope and GOGARBLE does not name the runtime either, the
top-level listing fails instead of producing an unobfuscated binary -/
theorem nothing_matches_is_error (gg : Bytes) (pkgs : List Listed)
    (h1 : ∀ p ∈ pkgs, toObfuscate gg p = false) (h2 : matchPrefixPatterns gg (str "runtime") = false) :
    nothingMatchesError gg pkgs = true := by
  have : pkgs.any (toObfuscate gg) = false := by
    rw [List.any_eq_false]
    intro p hp
    simp [h1 p hp]
  simp [nothingMatchesError, this, h2]

/-- sanity of the pattern matcher on the shapes the property names: exact path, prefix, glob, comma list -/
example : matchPrefixPatterns (str "example.com/mod") (str "example.com/mod/pkg/sub") = true := by decide +kernel
example : matchPrefixPatterns (str "example.com/mod/pkg") (str "example.com/mod") = false := by decide +kernel
example : matchPrefixPatterns (str "example.com/*/pkg,other") (str "example.com/mod/pkg") = true := by decide +kernel
example : matchPrefixPatterns (str "example.com/mo?") (str "example.com/mod/x") = true := by decide +kernel
example : matchPrefixPatterns (str "*") (str "any/thing") = true := by decide +kernel
example : matchPrefixPatterns (str ",") (str "x") = false := by decide +kernel

end GV.Props.C14
