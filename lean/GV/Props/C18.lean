import GV.Props.C17
/-
C18 — An interrupted build leaves nothing that breaks the next one (the linker protocol part).

Crashes are steps of the protocol model (`Step.crash`, enabled at every point; the lock is released by the OS, files
stay as they are).  From EVERY state reachable through any interleaving and any number of crashes, once no process
holds the lock a fresh process completes the protocol and runs a complete linker of its own version.  Cache entries
are covered by C07 (`get_never_wrong`: an entry cut short by a crash is a miss).  OS behaviour (flock release on
kill -9, rename atomicity) is outside the model: partial; the kill sweep samples it.
-/
namespace GV.Props.C18
open GV.Protocol GV.Props.C17

/-- stamp after the build, lock held while the linker runs: the regenerated step orders (shared with C17) -/
theorem stamp_written_last : GV.Gen.linkerSteps.getLast? = some "writeVersion" := rfl

/-- once the lock is free, a process that has not started can run the protocol up to the linker, whatever is in the
cache directory: it takes the lock, then reuses or rebuilds as `linkerOK` says -/
theorem idle_reaches_running (s : State) (p : Pid) (hidle : s.pc p = .idle) (hfree : s.owner = none) :
    ∃ t, Reach s t ∧ t.pc p = .running := by
  obtain ⟨s1, r1, h1⟩ : ∃ s1, Reach s s1 ∧ s1.pc p = .checking :=
    ⟨_, .step (.refl s) (.lock s p hidle hfree), pc_setPc_self ..⟩
  cases hok : linkerOK s1 p with
  | true => exact ⟨_, r1.step (.reuse s1 p h1 hok), pc_setPc_self ..⟩
  | false =>
    have r2 := r1.step (.startBuild s1 p h1 hok)
    have r3 := r2.step (.finishBuild _ p (pc_setPc_self ..))
    have r4 := r3.step (.writeStamp _ p (pc_setPc_self ..))
    exact ⟨_, r4.step (.toRun _ p (pc_setPc_self ..)), pc_setPc_self ..⟩

/-- **rerun after any crash sequence**: let `s` be ANY state reachable from any initial cache state (so: after any
number of runs, interleavings and crashes — partial binary, old/new/absent stamp, …) in which the lock is free and
process `p` has not started.  Then `p` can run the protocol to the point where it executes the linker, and in
whatever state it gets there the linker binary is complete and of `p`'s version. -/
theorem rerun_after_crash (ver : Pid → Ver) (bin : Bin) (stamp : Option Ver)
    (h0 : ∀ v, stamp = some v → bin = .complete v) (s : State) (r : Reach (initial ver bin stamp) s)
    (p : Pid) (hidle : s.pc p = .idle) (hfree : s.owner = none) :
    ∃ t, Reach s t ∧ t.pc p = .running ∧ t.bin = .complete (t.ver p) :=
  have ⟨t, rt, ht⟩ := idle_reaches_running s p hidle hfree
  have hinv := inv_reach _ _ (inv_reach _ _ (inv_initial ver bin stamp h0) r) rt
  ⟨t, rt, ht, hinv.haveBin p (.inr (.inr ht))⟩

/-- a crash at any point of any process is a step of the model, so the theorem above quantifies over kills during
the stamp check, during the linker build (partial binary on disk), between build and stamp, and while linking -/
example (s : State) (p : Pid) (h1 : s.pc p = .building) : ∃ t, Step s t ∧ t.pc p = .dead :=
  ⟨_, .crash s p (h1 ▸ nofun) (h1 ▸ nofun), pc_setPc_self ..⟩

/-- what `writeVersion` writes validates for exactly the binary it was written for (same size), under the same versions -/
theorem stamp_validates_own_binary (gv pv : Bytes) (size : Nat) :
    reusable (some (stampFor gv pv size)) (some size) gv pv = true :=
  BEq.rfl

/-- no version file, or no binary: never reused (the linker is rebuilt) -/
theorem missing_file_never_reused (st : Option Bytes) (sz : Option Nat) (gv pv : Bytes) :
    reusable none sz gv pv = false ∧ reusable st none gv pv = false :=
  ⟨rfl, by cases st <;> rfl⟩

/-- an empty or truncated stamp file (a writer killed mid-write leaves a proper prefix) never validates against an
expected stamp as long as the whole one (`hsame`: the same versions and a binary of the recorded size, say) -/
theorem truncated_stamp_never_validates (gv pv : Bytes) (size sz : Nat) (k : Nat)
    (hk : k < (stampFor gv pv size).length) (gv' pv' : Bytes)
    (hsame : (stampFor gv' pv' sz).length = (stampFor gv pv size).length) :
    reusable (some ((stampFor gv pv size).take k)) (some sz) gv' pv' = false := by
  -- a proper prefix is shorter than the stamp it is compared with
  refine beq_eq_false_iff_ne.2 fun e => Nat.ne_of_lt ?_ (congrArg List.length e)
  rw [List.length_take, hsame]
  exact Nat.lt_of_le_of_lt (Nat.min_le_left ..) hk

end GV.Props.C18
