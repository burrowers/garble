import GV.Model.Link
import GV.Proofs.Flags
import GV.Proofs.Naming
/-
C02 — The binary carries no original names, paths, positions or build metadata.

Proved here (for all objects / all link command lines / all importcfg contents): garble keeps a name only for a
documented reason; the link step's flags contain -w, -s and -X=runtime.buildVersion=unknown (for flag lists of the
shape the go command produces; the emptied -buildid is left to the tie); the rewritten importcfg consists of
importmap/packagefile lines only (modinfo and everything else is dropped); positions are hashed or, under -tiny,
empty.  What the compiler and linker then put into the binary is outside the model: the end-to-end scan samples it.
-/
namespace GV.Props.C02
open GV.Naming GV.Link GV.Flags GV.Salt

/-- the documented reasons for an original name to survive -/
def Documented (env : Env) (o : Obj) : Prop :=
  o.pkgPath = none ∨                                                      -- universe scope (builtins)
  (∃ path, o.pkgPath = some path ∧ specialKeep path o.name = true) ∨      -- embed.FS, reflect.Method(ByName), align64, pkix *SET
  (∃ path lp, o.pkgPath = some path ∧ env.lookup path = .found lp ∧ lp.toObfuscate = false) ∨  -- package outside GOGARBLE / runtime
  o.kind = .other ∨                                                       -- constants, labels, package names: nothing to rename
  (o.kind = .func ∧ ((∃ path, o.pkgPath = some path ∧ env.intrinsic path o.name = true) ∨       -- compiler intrinsics
                     (o.cls = .exported ∧ o.hasRecv = true) ∨              -- exported methods
                     o.name = str "main" ∨ o.name = str "init" ∨ o.name = str "TestMain" ∨
                     (hasPrefix (str "Test") o.name = true ∧ o.testSig = true)))                  -- test functions

/-- **kept ⇒ documented**: any new silent exemption in `obfuscatedObjectName` breaks this theorem's tie -/
theorem kept_only_if_documented (env : Env) (o : Obj) (h : decideObj env o = .keep) : Documented env o := by
  unfold Documented
  cases hp : o.pkgPath with
  | none => exact .inl rfl
  | some path =>
  cases hs : specialKeep path o.name with
  | true => exact .inr (.inl ⟨path, rfl, hs⟩)
  | false =>
  cases hl : env.lookup path with
  | notFound => exact nomatch (decideObj_unlisted hp hs (.inl hl)).symm.trans h
  | notDependency => exact nomatch (decideObj_unlisted hp hs (.inr hl)).symm.trans h
  | found lp =>
  cases ho : lp.toObfuscate with
  | false => exact .inr (.inr (.inl ⟨path, lp, rfl, hl, ho⟩))
  | true =>
  -- in an obfuscated package a hash is never `keep`: what is left of `h` are the conditions of the early returns
  rw [decideObj_obfuscated hp hs hl ho] at h
  cases hk : o.kind <;> simp only [hk, ite_keep_eq_keep, pkgHash, ofOpt_ne_keep, or_false] at h
  · cases hh : o.structHash <;> simp only [hh, fieldHash, ofOpt_ne_keep, reduceCtorEq] at h
  · simp only [Bool.or_eq_true, Bool.and_eq_true, beq_iff_eq, or_assoc] at h
    exact .inr (.inr (.inr (.inr ⟨rfl, h.imp_left fun hi => ⟨path, rfl, hi⟩⟩)))
  · exact .inr (.inr (.inr (.inl rfl)))

/-- the same for the full decision including embedded fields: an embedded field keeps its name only if the type it is
named after is predeclared, or that type's name is kept for a documented reason -/
theorem ident_kept_only_if_documented (env : Env) (o : Obj) (emb : Embedded) (h : decideIdent env o emb = .keep) :
    match emb with
    | .no => Documented env o
    | .unnamed => True
    | .named n c p => Documented env { kind := .typeName, name := n, cls := c, pkgPath := p } := by
  cases emb with
  | no => exact kept_only_if_documented env o h
  | unnamed => trivial
  | named n c p => exact kept_only_if_documented env _ h

/-- every flag appended for `-X` duplication has the `-X=` form, so it is never a bare flag name -/
theorem xDuplicates_form (dup : Bytes → Option Bytes) (flags : List Tok) :
    ∀ a ∈ xDuplicates dup flags, (bstr "-X=").isPrefixOf a = true := by
  intro a ha
  obtain ⟨v, _, hv⟩ := List.mem_filterMap.mp ha
  obtain ⟨d, _, rfl⟩ := Option.map_eq_some_iff.mp hv
  exact List.isPrefixOf_iff_prefix.mpr (List.prefix_append _ d)

/-- closed facts about the literals of `transformLink`, by evaluation.  The arguments it adds: none has the form
`-importcfg=…` or `-buildid=…`, none is a value written for `-buildid`.  The two flag names it sets: neither has the
form `-X=…`, is a value written for `-buildid`, or is one of the arguments added. -/
theorem link_literals :
    (∀ x ∈ [bstr "-w", bstr "-s", bstr "-X=runtime.buildVersion=unknown"],
      (bstr "-importcfg" ++ [61]).isPrefixOf x = false ∧ (bstr "-buildid" ++ [61]).isPrefixOf x = false ∧
        [] ≠ x ∧ bstr "-buildid" ++ [61] ≠ x) ∧
    ∀ n ∈ [bstr "-importcfg", bstr "-buildid"],
      (bstr "-X=").isPrefixOf n = false ∧ [] ≠ n ∧ bstr "-buildid" ++ [61] ≠ n ∧
        n ∉ [bstr "-X=runtime.buildVersion=unknown"] ∧ n ∉ [bstr "-w", bstr "-s"] := by
  decide +kernel

/-- **link flags**: whatever flags the go command passes to the linker (any list not ending in a bare `-importcfg`
or `-buildid`, and in which `-w`, `-s` and the version flag do not sit in the value position of a bare
`-importcfg`/`-buildid`), garble's link step strips DWARF and the symbol table and overrides the Go version. -/
theorem link_flags (dup : Bytes → Option Bytes) (newCfg : Tok) (flags : List Tok) (x : Tok)
    (hx : x = bstr "-w" ∨ x = bstr "-s" ∨ x = bstr "-X=runtime.buildVersion=unknown")
    (hlast1 : flags.getLast? ≠ some (bstr "-importcfg")) (hlast2 : flags.getLast? ≠ some (bstr "-buildid"))
    (hadj1 : adj (bstr "-importcfg") x flags = false) (hadj2 : adj (bstr "-buildid") x flags = false) :
    x ∈ transformLinkFlags dup newCfg flags := by
  -- of `x`: no `-importcfg=` / `-buildid=` prefix (`hpi`, `hpb`), not the value `[]` or the argument `-buildid=` that
  -- `flagSetValue -buildid []` may write (`hv`, `hnv`); of the two names likewise (`h·i`, `h·b`), and neither is the
  -- version flag (`hV·`) or `-w`/`-s` (`hwsi`)
  obtain ⟨hpi, hpb, hv, hnv⟩ := link_literals.1 x (by simpa using hx)
  obtain ⟨hxi, hvi, hnvi, hVi, hwsi⟩ := link_literals.2 (bstr "-importcfg") List.mem_cons_self
  obtain ⟨hxb, -, -, hVb, -⟩ := link_literals.2 (bstr "-buildid") (List.mem_cons_of_mem _ List.mem_cons_self)
  -- f2 = flags ++ dups ++ [version flag] stays clear of both names: nothing of the `-X=` form is a bare name
  have hf2 : ∀ n, (bstr "-X=").isPrefixOf n = false → n ∉ [bstr "-X=runtime.buildVersion=unknown"] →
      Clear n x flags → Clear n x (flags ++ xDuplicates dup flags ++ [bstr "-X=runtime.buildVersion=unknown"]) := by
    intro n hn hV hc
    refine clear_append hV (clear_append (fun hm => ?_) hc)
    rw [xDuplicates_form dup flags n hm] at hn
    cases hn
  have hi2 := hf2 _ hxi hVi ⟨hadj1, hlast1⟩
  have hb2 := hf2 _ hxb hVb ⟨hadj2, hlast2⟩
  -- f4 = flagSetValue -buildid "" f2 ++ [-w, -s] contains x and stays clear of -importcfg
  have hi4 := clear_append hwsi (clear_flagSetValue (n := bstr "-buildid") (v := []) hi2 ⟨hv, hvi⟩ ⟨hnv, hnvi⟩)
  have hm2 : x ∈ flags ++ xDuplicates dup flags ++ [bstr "-X=runtime.buildVersion=unknown"] ∨
      x ∈ [bstr "-w", bstr "-s"] := by
    simp only [List.mem_append, List.mem_cons, List.not_mem_nil, or_false]
    rcases hx with h | h | h
    · exact .inr (.inl h)
    · exact .inr (.inr h)
    · exact .inl (.inr h)
  have hm4 := List.mem_append.mpr (hm2.imp_left fun h => mem_flagSetValue (bstr "-buildid") [] x _ h hpb hb2.1)
  exact mem_flagSetValue _ _ _ _ hm4 hpi hi4.1

/-- **importcfg lines**: the rewritten importcfg only has `importmap`/`packagefile` lines — `modinfo` (module and
VCS information), comments and anything else in the original are dropped, for every input -/
theorem importcfg_only_known_lines (rm : Bytes → Bytes → Bytes × Bytes) (rp : Bytes → Bytes) (data : Bytes) :
    ∀ l ∈ processImportCfg rm rp data, (str "importmap ").isPrefixOf l = true ∨ (str "packagefile ").isPrefixOf l = true := by
  intro l hl
  -- both halves of `renderCfg` alike: `l` renders some parsed line `c`, and only one kind of line renders at all
  rcases List.mem_append.mp hl with hl | hl <;> obtain ⟨c, _, hc⟩ := List.mem_filterMap.mp hl <;> cases c <;>
    simp only [Option.some.injEq, reduceCtorEq] at hc
  · subst hc
    exact .inl (by simp)
  · subst hc
    exact .inr (by simp)

/-- **positions**: under -tiny the position name is empty; otherwise it is a hashed name plus `.go`, and it depends on
the package, the file's base name and the byte offset of the call only -/
theorem position_tiny_empty (cfg : Cfg) (p : Pkg) (base : Bytes) (off : Nat) (h : cfg.tiny = true) :
    callPosName cfg p base off = some [] := by
  simp [callPosName, h]

theorem position_hashed (cfg : Cfg) (p : Pkg) (base : Bytes) (off : Nat) (h : cfg.tiny = false) :
    callPosName cfg p base off =
      (hashWithPackage cfg p.path p.gaid (posString base off) .notIdent).map (· ++ str ".go") := by
  simp [callPosName, h]

/-- non-vacuity: the go command's usual link flags satisfy the hypotheses of `link_flags` -/
example : let flags := [bstr "-o", bstr "a.out", bstr "-importcfg", bstr "/tmp/importcfg.link", bstr "-buildmode=exe", bstr "-buildid=abc", bstr "-extld=gcc"]
    flags.getLast? ≠ some (bstr "-importcfg") ∧ flags.getLast? ≠ some (bstr "-buildid") ∧
    adj (bstr "-importcfg") (bstr "-w") flags = false ∧ adj (bstr "-buildid") (bstr "-w") flags = false := by
  decide +kernel

end GV.Props.C02
