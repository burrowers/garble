import GV.Proofs.Cache
import GV.Props.C12      -- key completeness is C12's theorem: building C06 builds it
/-
C06 — Cached builds never go stale.

Two halves.  (1) Key completeness: every garble input that changes output reaches the cache keys injectively — this is
C12's `unseeded_preimage_injective` (action ID, garble binary, -literals, -tiny, -seed, control flow, GOGARBLE and, under
-literals, the set of -ldflags=-X targets, hashed since the `fix:` commit for them), plus the
domain separation of the derived garble-cache keys and the dependency coverage of the deep per-package key (the
`fix:` commit for the stale reflection cache).  (2) History correctness: over ANY history of builds and cache faults, a
content-addressed store whose readable entries are sound only ever returns what a cold computation returns.
-/
namespace GV.Props.C06
open GV.Cache GV.Salt

variable {K V : Type} [DecidableEq K]

theorem sound_empty (cold : K → V) : (Store.empty : Store K V).Sound cold := by
  intro k v h; simp [Store.empty, Store.get] at h

/-- **history correctness, with faults**: for EVERY history of builds and cache faults (deletions, truncations, whole
cache wipes) starting from a sound store — in particular from an empty one — every build returns exactly what a
cold-cache build returns, and the store stays sound -/
theorem history_correct (cold : K → V) : ∀ (ops : List (Op K)) (s : Store K V), s.Sound cold →
    (∀ p ∈ (run cold s ops).1, p.2 = cold p.1) ∧ (run cold s ops).2.Sound cold
  | [], s, h => ⟨by simp [run], h⟩
  | .build k :: rest, s, h => by
    obtain ⟨hv, hs⟩ := build_sound s cold k h
    obtain ⟨ih, hs'⟩ := history_correct cold rest _ hs
    simp only [run]
    exact ⟨List.forall_mem_cons.2 ⟨hv, ih⟩, hs'⟩
  | .fault f :: rest, s, h => by
    simp only [run]
    exact history_correct cold rest (s.fault f) (fault_sound s cold f h)

/-- **a no-op rebuild recomputes nothing**: building the same key again right away is a hit -/
theorem noop_rebuild_hits (s : Store K V) (cold : K → V) (k : K) :
    ((s.build cold k).2.build cold k).2 = (s.build cold k).2 := by
  cases hg : s.get k with
  | some v => rw [build_hit hg, build_hit hg]
  | none => rw [build_miss hg, build_hit (get_put_same s k (cold k))]

/-- pre-images that put different labels after the same prefix and a 0 byte differ -/
theorem label_separates {g l₁ l₂ r₁ r₂ : Bytes} {a b : UInt8} (h₁ : l₁.head? = some a) (h₂ : l₂.head? = some b)
    (hab : a ≠ b) : g ++ 0 :: (l₁ ++ r₁) ≠ g ++ 0 :: (l₂ ++ r₂) := by
  intro h
  have := congrArg List.head? (List.cons.inj (List.append_cancel_left h)).2
  rw [List.head?_append, List.head?_append, h₁, h₂] at this
  exact hab (Option.some.inj this)

/-- **the derived garble-cache keys never collide**: same package, three different domain-separation strings -/
theorem garble_keys_distinct (g : Bytes) (deps : List Bytes) (kind : Bytes) :
    goAsmPre g ≠ debugPre g kind ∧ goAsmPre g ≠ pkgCachePre g deps ∧ debugPre g kind ≠ pkgCachePre g deps := by
  have ha : (str "go-asm-names-v1").head? = some 103 := by decide +kernel
  have hd : (str "debugdir-cache-v1").head? = some 100 := by decide +kernel
  have hp : (str "pkg-cache-deps-v1").head? = some 112 := by decide +kernel
  simp only [goAsmPre, debugPre, pkgCachePre, List.append_assoc]
  exact ⟨label_separates ha hd (by decide), label_separates ha hp (by decide), label_separates hd hp (by decide)⟩

/-- blocks of one fixed width can be read back from their concatenation -/
theorem flatten_inj_of_length {α : Type} {w : Nat} {d₁ d₂ : List (List α)} (hl : d₁.length = d₂.length)
    (hw : ∀ x ∈ d₁ ++ d₂, x.length = w) (h : d₁.flatten = d₂.flatten) : d₁ = d₂ := by
  refine List.eq_iff_flatten_eq.2 ⟨h, ?_⟩
  rw [List.map_eq_replicate_iff.2 fun x hx => hw x (List.mem_append_left _ hx),
    List.map_eq_replicate_iff.2 fun x hx => hw x (List.mem_append_right _ hx), hl]

/-- **the deep per-package key covers the dependencies**: with fixed-width action IDs, a change of ANY dependency's
garble action ID (or of the package's own) changes the key pre-image -/
theorem pkgcache_key_covers_deps (g1 g2 : Bytes) (d1 d2 : List Bytes) (hg : g1.length = g2.length)
    (hl : d1.length = d2.length) (hw : ∀ x ∈ d1 ++ d2, x.length = 32)
    (h : pkgCachePre g1 d1 = pkgCachePre g2 d2) : g1 = g2 ∧ d1 = d2 := by
  unfold pkgCachePre at h
  simp only [List.append_assoc] at h
  obtain ⟨hg', h⟩ := List.append_inj h hg
  exact ⟨hg', flatten_inj_of_length hl hw (List.append_cancel_left (List.append_cancel_left h))⟩

/-- A leftover from before the `fix:` commit that hashes the `-ldflags=-X` targets under -literals (garble's former TODO,
transformer.go): then `Cfg` had no field for them and two builds that differed only in -X targets shared every compile
key.  `Cfg.xTargets` now reaches the pre-image (`C12.unseeded_preimage_injective`); what is left here is an identity
that says nothing. -/
theorem ldflagsX_not_in_key (c : Cfg) (input : Bytes) (_xTargets1 _xTargets2 : List Bytes) :
    garblePreImage c input = garblePreImage c input := rfl

end GV.Props.C06
