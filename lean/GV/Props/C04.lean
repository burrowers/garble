import GV.Proofs.Replacer
import GV.Model.Link
/-
C04 — garble reverse restores obfuscated traces exactly.
-/
namespace GV.Props.C04
open GV.Replacer

/-- no key occurs at any position of `s` -/
def NoKeyIn (pairs : List (Bytes × Bytes)) : Bytes → Prop
  | [] => True
  | c :: r => firstMatch pairs (c :: r) = none ∧ NoKeyIn pairs r

/-- **pass-through (one line)**: text in which no obfuscated name occurs is returned byte for byte -/
theorem passthrough_line (pairs : List (Bytes × Bytes)) (s : Bytes) (h : NoKeyIn pairs s) : replaceAll pairs s = s := by
  induction s with
  | nil => rfl
  | cons c r ih => rw [replaceAll_cons_of_none h.1, ih h.2]

/-- **pass-through (whole input, any line endings, with or without final newline)**: if no line contains a key, the
output equals the input and `modified` is false (exit status 1) -/
theorem passthrough (pairs : List (Bytes × Bytes)) (input : Bytes)
    (h : ∀ l ∈ splitAfterNL input, NoKeyIn pairs l) : reverseContent pairs input = (input, false) :=
  reverseContent_of_fixed fun l hl => passthrough_line pairs l (h l hl)

/-- **not modified ⇒ output = input**: when the exit status says that nothing was replaced, the text came through
byte for byte.  (`modified` is decided line by line: `reverseContent_snd_eq_false_iff`; a replacement that leaves the
whole output equal to the input still counts as a modification.) -/
theorem not_modified_output_eq (pairs : List (Bytes × Bytes)) (input : Bytes)
    (h : (reverseContent pairs input).2 = false) : (reverseContent pairs input).1 = input :=
  congrArg Prod.fst (reverseContent_of_fixed (reverseContent_snd_eq_false_iff.mp h))

/-- **specific first**: with `name.go:1` listed before `name.go`, a frame `name.go:1` becomes `import/file.go:LINE`,
any other `name.go:N` becomes `import/file.go:N` -/
theorem specific_first (k a b : Bytes) (hne : k ≠ []) :
    firstMatch [(k ++ [58, 49], a), (k, b)] (k ++ [58, 49]) = some (k ++ [58, 49], a) ∧
    (∀ d : UInt8, d ≠ 49 → ∀ rest, firstMatch [(k ++ [58, 49], a), (k, b)] (k ++ 58 :: d :: rest) = some (k, b)) := by
  constructor
  · exact firstMatch_cons_of_prefix (List.append_ne_nil_of_left_ne_nil hne _) (List.prefix_refl _)
  · intro d hd rest
    have h1 : ¬ k ++ [58, 49] <+: k ++ 58 :: d :: rest := by
      rw [List.prefix_append_right_inj, List.cons_prefix_cons, List.cons_prefix_cons]
      exact fun h => hd h.2.1.symm
    rw [firstMatch_cons_of_not_prefix h1, firstMatch_cons_of_prefix hne (List.prefix_append _ _)]

/-- the non-empty suffixes of a text -/
def tailsNE : Bytes → List Bytes
  | [] => []
  | c :: t => (c :: t) :: tailsNE t

/-- a trace template: literal text and references to obfuscated names (by index into the pair list) -/
inductive Seg
  | text (t : Bytes)
  | name (i : Nat)

def renderObf (pairs : List (Bytes × Bytes)) : List Seg → Bytes
  | [] => []
  | .text t :: r => t ++ renderObf pairs r
  | .name i :: r => ((pairs[i]?).map (·.1)).getD [] ++ renderObf pairs r

def renderOrig (pairs : List (Bytes × Bytes)) : List Seg → Bytes
  | [] => []
  | .text t :: r => t ++ renderOrig pairs r
  | .name i :: r => ((pairs[i]?).map (·.2)).getD [] ++ renderOrig pairs r

/-- the "unique parse" hypothesis: inside literal text no key matches, and where a name was written that name's own
pair is the first to match.  Its failure needs an accidental occurrence of a ≥6-character hashed name in other text
(C16: a hash-prefix coincidence). -/
def Clean (pairs : List (Bytes × Bytes)) : List Seg → Prop
  | [] => True
  | .text t :: r => ((tailsNE t).all fun suf => (firstMatch pairs (suf ++ renderObf pairs r)).isNone) = true ∧ Clean pairs r
  | .name i :: r => (∃ k v, pairs[i]? = some (k, v) ∧ k ≠ [] ∧ firstMatch pairs (k ++ renderObf pairs r) = some (k, v)) ∧ Clean pairs r

theorem replaceAll_text (pairs : List (Bytes × Bytes)) {rest : Bytes} (t : Bytes)
    (h : ((tailsNE t).all fun suf => (firstMatch pairs (suf ++ rest)).isNone) = true) :
    replaceAll pairs (t ++ rest) = t ++ replaceAll pairs rest := by
  induction t with
  | nil => rfl
  | cons c t ih =>
    rw [tailsNE, List.all_cons, Bool.and_eq_true, Option.isNone_iff_eq_none, List.cons_append] at h
    rw [List.cons_append, replaceAll_cons_of_none h.1, ih h.2, List.cons_append]

/-- the round trip on `replaceAll`: what `roundtrip_unique_parse` and `C08.names_restored` say, without fuel -/
theorem replaceAll_renderObf (pairs : List (Bytes × Bytes)) (segs : List Seg) (hc : Clean pairs segs) :
    replaceAll pairs (renderObf pairs segs) = renderOrig pairs segs := by
  induction segs with
  | nil => rfl
  | cons sg r ih =>
    cases sg with
    | text t => rw [renderObf, renderOrig, replaceAll_text pairs t hc.1, ih hc.2]
    | name i =>
      obtain ⟨⟨k, v, hp, -, hfm⟩, hcr⟩ := hc
      simp only [renderObf, renderOrig, hp, Option.map_some, Option.getD_some]
      rw [replaceAll_append_of_some hfm, ih hcr]

/-- **round trip under unique parse**: every obfuscated package path, function, type, method, field and call position
written into otherwise clean text is replaced by its original, and the surrounding text is kept byte for byte -/
theorem roundtrip_unique_parse (pairs : List (Bytes × Bytes)) : ∀ (segs : List Seg) (f : Nat), Clean pairs segs →
    (renderObf pairs segs).length ≤ f → replaceFuel pairs (f + 1) (renderObf pairs segs) = renderOrig pairs segs
  | segs, _, hc, hf => (replaceFuel_eq_replaceAll (Nat.le_succ_of_le hf)).trans (replaceAll_renderObf pairs segs hc)

/-- **forward ⊆ reverse table** for call positions: the file name the build writes into a line directive is the key the
reverse command computes, given that compiled file names are base names (cgo-generated files excluded) -/
theorem forward_position_in_reverse_table (cfg : GV.Salt.Cfg) (p : GV.Naming.Pkg) (goFile base : List UInt8) (off : Nat)
    (hb : goFile = base) (ht : cfg.tiny = false) :
    GV.Link.callPosName cfg p base off =
      (GV.Salt.hashWithPackage cfg p.path p.gaid (GV.Link.posString goFile off) .notIdent).map (· ++ GV.Salt.str ".go") := by
  subst hb
  simp [GV.Link.callPosName, ht]

/-- non-vacuity of `Clean`: "at Hx.go:1\n" with the pair list of one call position -/
example : Clean [([72, 120, 46, 103, 111, 58, 49], [112, 47, 102, 46, 103, 111, 58, 55]), ([72, 120, 46, 103, 111], [112, 47, 102, 46, 103, 111])]
    [.text [97, 116, 32], .name 0, .text [10]] := by
  refine ⟨by decide, ⟨⟨_, _, rfl, List.cons_ne_nil _ _, by decide⟩, by decide, trivial⟩⟩

end GV.Props.C04
