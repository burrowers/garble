import GV.Model.Graph
import GV.Gen.RuntimeGraph
/-
C10 — -tiny silences every crash but keeps crash semantics.

PARTIAL by nature: exit statuses, `recover` values and what the compiled runtime does are behaviour of compiled code and
are sampled by the crash catalogue (gvlib/c10.py).  What is proved is the static half of "prints nothing":

`GV.Gen.RuntimeGraph` is regenerated on every run from package runtime *after the real stripRuntime was applied to every
file* (type-checked the way garble type-checks it).  Its edge list over-approximates calls: static calls, every function
whose address is taken (reachable from any call of a function value), interface calls resolved by method name,
assembly functions may call every Go symbol the assembly mentions, every function may make any compiler-inserted call
(`<hidden>`), and a remaining `print`/`println` builtin is an edge to the compiler's print support.  The theorem:

  the ONLY functions of the stripped runtime from which a write to file descriptor 2 is reachable are the ones in
  `allowed` below — the print support that user code reaches through its own print/println, and diagnostics helpers that
  are only called from functions whose bodies -tiny empties.  In particular none of the crash entry points
  (`crashRootNames`: gopanic, the run-time error panics, throw/fatal, signal handling, deadlock detection, Goexit, ...)
  can reach such a write.

Removing a strip rule, skipping the print rewrite for a file, or a new Go release adding a write path makes the
regenerated unsafe set larger than `allowed`: `unsafe_are_allowed` stops checking.
-/
namespace GV.Props.C10
open GV.Graph GV.Gen.RuntimeGraph

/-- print support reached from user code through print/println, the two raw writers they end in, and debug helpers that
only stripped functions call (`printDebugLog`, `hexdumpWords` are emptied; their helpers and the closures passed to them
are dead) -/
def allowed : List String :=
  ["writeErrData", "writeErr", "gwrite",
   "printbool", "printcomplex128", "printcomplex64", "printfloat32", "printfloat64", "printhex", "printhexopts", "printint",
   "printnl", "printpointer", "printquoted", "printslice", "printsp", "printstring", "printuint", "printuintptr",
   "printeface", "printiface",
   "debugLogReader.printVal", "printDebugLogImpl",
   "hexdumpMarker.start", "hexdumper.flushLine", "hexdumper.close", "hexdumper.write",
   "dumpSigStack$1", "scanConservative$1"]

def crashRootNames : List String :=
  ["gopanic", "panicmem", "panicmemAddr", "panicdivide", "panicoverflow", "panicfloat", "goPanicIndex", "goPanicIndexU", "goPanicSliceAlen", "goPanicSliceB", "panicdottypeE", "panicdottypeI", "panicnildottype", "panicwrap", "panicunsafeslicelen", "panicmakeslicelen", "throw", "fatal", "fatalthrow", "fatalpanic", "sigpanic", "sigpanic0", "Goexit", "goexit1", "goexit0", "checkdead", "dieFromSignal", "crash", "sighandler", "badsignal", "sigtrampgo", "dopanic_m", "printpanics", "printpanicval", "preprintpanics", "startpanic_m", "recovery", "gorecover", "deferreturn", "deferproc", "newstack", "mallocgc", "main", "sigNotOnStack", "badmorestackg0", "badmorestackgsignal", "unlock2", "lock2", "fatalsignal", "raisebadsignal", "sigfwdgo", "exitsyscall", "schedule", "mstart1", "mcall", "systemstack", "morestack", "abort", "exit", "raise", "raiseproc", "closechan", "chansend", "chanrecv", "mapassign_faststr", "panicCheck1", "panicCheck2", "printanycustomtype", "goroutineheader", "traceback", "tracebackothers", "printDebugLog", "hexdumpWords", "writeErrStr", "sync_throw", "sync_fatal", "rawstring", "semrelease1", "sync_runtime_Semrelease", "timeSleep", "gcStart", "gcBgMarkWorker", "sysmon", "bgsweep", "forcegchelper", "printlock", "printunlock", "printCgoTraceback", "tracebackHexdump", "maps_fatal"]

/-- the translator found every crash entry point in the current runtime -/
theorem roots_found : crashRoots.map (·.1) = crashRootNames := rfl

/-- the regenerated set of functions that can reach a stderr write is within the documented list -/
theorem unsafe_are_allowed : unsafeNodes.all (fun p => allowed.contains p.2) = true := by decide +kernel

/-- direct writes to fd 2 happen in exactly one function -/
theorem single_writer : writerNames = ["writeErrData"] := rfl

/-- after stripRuntime the print builtins survive only inside print.go (the support functions themselves) -/
theorem print_calls_gone : printCallers = ["printeface", "printiface", "printquoted", "printslice"] := rfl

/-- the three functions that bypass the print builtins are emptied, and garble's own validation agrees -/
theorem required_strips_present :
    stripped = [("debuglog.go", "printDebugLog"), ("hexdump.go", "hexdumpWords"), ("runtime.go", "writeErrStr")]
    ∧ validateOutcome = "valid" := ⟨rfl, rfl⟩

/-! ### the certificate

`safeMask` comes from the translator and is not trusted: what is used is that the kernel finds it closed under every
edge, that it contains the crash roots and misses the writers, and that the nodes it misses are `unsafeNodes`. -/

theorem closedAll : closed safeMask edges = true := by
  -- one conjunct per chunk, so that the kernel walks the chunks and never builds the appended list
  simp only [edges, closed_append, Bool.and_eq_true]
  simp only [← closedK_eq]
  decide +kernel

theorem cover : (List.range nNodes).all (fun i => safeMask.testBit i || (unsafeNodes.map (·.1)).contains i) = true := by
  simp only [← bitK_eq]      -- the bit test in the form the kernel evaluates fastest
  decide +kernel

theorem writers_outside : ∀ w ∈ writers, safeMask.testBit w = false := by decide +kernel

theorem roots_inside : ∀ r ∈ crashRoots, safeMask.testBit r.2 = true := by decide +kernel

/-- **no crash entry point can reach a write to stderr**, along any path of the over-approximated graph -/
theorem tiny_silent (r : String × Nat) (hr : r ∈ crashRoots) (w : Nat) (hw : w ∈ writers) : ¬ Path edges r.2 w :=
  no_path_out closedAll (roots_inside r hr) (writers_outside w hw)

/-- the general form: whatever can reach a stderr write is one of the `allowed` functions -/
theorem only_allowed_reach_stderr (a : Nat) (ha : a < nNodes) (w : Nat) (hw : w ∈ writers) (p : Path edges a w) :
    ∃ s, (a, s) ∈ unsafeNodes ∧ s ∈ allowed := by
  have hc := List.all_eq_true.mp cover a (List.mem_range.mpr ha)
  have hm : safeMask.testBit a = false := Bool.eq_false_iff.mpr fun h => no_path_out closedAll h (writers_outside w hw) p
  simp only [hm, Bool.false_or, List.contains_eq_mem, decide_eq_true_eq, List.mem_map] at hc
  obtain ⟨⟨_, s⟩, hq, rfl⟩ := hc
  exact ⟨s, hq, by simpa using List.all_eq_true.mp unsafe_are_allowed _ hq⟩

theorem witnessEdges_sub : ∀ e ∈ witnessEdges, e ∈ edges := by
  simp +contextual only [witnessEdges, edges, List.mem_append, or_imp, true_or, or_true, implies_true, and_self]

/-- the graph is not vacuous: user-level print support does reach the writer -/
theorem print_support_reaches_stderr : ∃ a w, witness.head? = some a ∧ witness.getLast? = some w ∧ w ∈ writers ∧ Path edges a w :=
  ⟨_, _, rfl, rfl, by decide, (chain_path witnessEdges _ _ _ (by decide +kernel) rfl).mono witnessEdges_sub⟩

end GV.Props.C10
