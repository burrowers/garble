import GV.Props.C04
/-
C08 — Types that reach reflection keep their original names at run time.

The run-time mechanism is a multi-string replacer over the name table injected into `main`; its specification and the
"every written name is restored" theorem are shared with C04.  Proved here in addition: the per-package name maps
only grow when merged (a package's deep cache contains its dependencies').  The SSA analysis that decides WHICH
types reach reflection is not modelled: partial; order independence of that analysis is sampled by rebuilds.
-/
namespace GV.Props.C08
open GV.Replacer GV.Props.C04

/-- **names restored**: a reflect type string built from literal syntax and obfuscated names comes back with every
name replaced by its original, under the unique-parse hypothesis `Clean` of C04 -/
theorem names_restored (pairs : List (Bytes × Bytes)) (segs : List Seg) (h : Clean pairs segs) :
    replaceAll pairs (renderObf pairs segs) = renderOrig pairs segs :=
  replaceAll_renderObf pairs segs h

/-- the name maps are merged by union (`maps.Copy`): model as association lists where later entries do not remove
earlier keys -/
def merge (a b : List (Bytes × Bytes)) : List (Bytes × Bytes) := a ++ b.filter (fun p => !(a.any (·.1 == p.1)))

/-- the merged map has a key iff one of the two maps has it -/
theorem merge_any (a b : List (Bytes × Bytes)) (k : Bytes) :
    ((merge a b).any (·.1 == k)) = ((a.any (·.1 == k)) || (b.any (·.1 == k))) := by
  rw [merge, List.any_append, List.any_filter]
  cases ha : a.any (·.1 == k) with
  | true => rfl
  | false =>
    -- an entry of `b` with key `k` passes the filter, since `a` has no key `k`
    congr 2
    funext p
    by_cases hk : p.1 = k
    · rw [hk, ha]
      rfl
    · rw [beq_false_of_ne hk, Bool.and_false]

/-- **merge is monotone**: every obfuscated name recorded by a dependency is still recorded after merging into the
dependant's cache — names can be added, never lost -/
theorem merge_monotone (a b : List (Bytes × Bytes)) (k : Bytes) (h : (a.any (·.1 == k)) = true ∨ (b.any (·.1 == k)) = true) :
    ((merge a b).any (·.1 == k)) = true := by
  rw [merge_any, Bool.or_eq_true]
  exact h

/-- the set of recorded names does not depend on the order in which dependencies' caches are merged -/
theorem merge_keys_comm (a b : List (Bytes × Bytes)) (k : Bytes) :
    ((merge a b).any (·.1 == k)) = ((merge b a).any (·.1 == k)) := by
  rw [merge_any, merge_any, Bool.or_comm]

end GV.Props.C08
