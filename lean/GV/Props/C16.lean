import GV.Proofs.NameHash
/-
C16 — Obfuscated names are well-formed, export-preserving and stable.

All theorems quantify over EVERY digest `sum` (any byte list with at least `neededSumBytes + 1` bytes; SHA-256
gives 32) and every name class, hence over every salt, seed and original name.  SHA-256 is executed by the
correspondence check and never reasoned about.
-/
namespace GV.Props.C16
open GV.Gen GV.Base64 GV.NameHash

/-- view of the produced name in terms of the 6-bit groups of the digest prefix -/
def syms (sum : List UInt8) : List Nat := (sextets (sum.take neededSumBytes)).take (hashLength sum)

theorem encodeName_eq (sum : List UInt8) (cls : NameClass) :
    encodeName sum cls =
      match syms sum with
      | [] => []
      | s :: rest => fixFirst cls (b64char s) :: rest.map (fun s => fixDash (b64char s)) := by
  unfold encodeName syms encode
  rw [← List.map_take]
  cases List.take (hashLength sum) (sextets (List.take neededSumBytes sum)) <;> simp

theorem syms_lt (sum : List UInt8) : ∀ s ∈ syms sum, s < 64 :=
  fun s hs => sextets_lt _ s (List.mem_of_mem_take hs)

/-- a non-empty name, symbol by symbol: the first symbol with all three fix-ups, the others with the dash fix-up -/
theorem encodeName_cons {sum : List UInt8} {cls : NameClass} {c : UInt8} {rest : List UInt8}
    (h : encodeName sum cls = c :: rest) :
    ∃ s r, syms sum = s :: r ∧ s < 64 ∧ c = fixFirst cls (b64char s) ∧ rest = r.map (fun s => fixDash (b64char s)) := by
  rw [encodeName_eq] at h
  split at h
  · cases h
  · next s r hs =>
    exact ⟨s, r, hs, syms_lt sum s (hs ▸ .head r), (List.cons.inj h).1.symm, (List.cons.inj h).2.symm⟩

/-- `neededSumBytes` bytes give at least `maxHashLength` symbols, so `take (hashLength sum)` is never cut short -/
theorem syms_length (sum : List UInt8) (h : neededSumBytes ≤ sum.length) :
    (syms sum).length = hashLength sum := by
  unfold syms
  have hb := hashLength_bounds sum
  rw [List.length_take, sextets_length, List.length_take]
  unfold neededSumBytes maxHashLength at *
  omega

theorem encodeName_length (sum : List UInt8) (cls : NameClass) (h : neededSumBytes ≤ sum.length) :
    (encodeName sum cls).length = hashLength sum := by
  rw [encodeName_eq, ← syms_length sum h]
  cases syms sum <;> simp

/-- **length**: every obfuscated name has between `minHashLength` and `maxHashLength` characters … -/
theorem length_bounds (sum : List UInt8) (cls : NameClass) (h : neededSumBytes ≤ sum.length) :
    minHashLength ≤ (encodeName sum cls).length ∧ (encodeName sum cls).length ≤ maxHashLength := by
  rw [encodeName_length sum cls h]; exact hashLength_bounds sum

/-- … and those constants, as they stand in /repo now (regenerated `Gen.Consts`), are the documented 6 and 12 -/
theorem length_6_12 (sum : List UInt8) (cls : NameClass) (h : neededSumBytes ≤ sum.length) :
    6 ≤ (encodeName sum cls).length ∧ (encodeName sum cls).length ≤ 12 :=
  length_bounds sum cls h

/-- **charset**: letters, digits and underscore only -/
theorem charset (sum : List UInt8) (cls : NameClass) :
    ∀ c ∈ encodeName sum cls, isNameChar c = true := by
  intro c hc
  cases h : encodeName sum cls with
  | nil => simp [h] at hc
  | cons c0 rest =>
    obtain ⟨s, r, hs, hlt, rfl, rfl⟩ := encodeName_cons h
    rw [h, List.mem_cons, List.mem_map] at hc
    obtain rfl | ⟨t, ht, rfl⟩ := hc
    · exact isNameChar_of_isNameStart (sym_first_start cls s hlt)
    · exact sym_rest_ok t (syms_lt sum t (hs ▸ .tail s ht))

/-- **lexical identifier**: non-empty and starting with a letter or underscore (with `charset`: an identifier) -/
theorem lexical_identifier (sum : List UInt8) (cls : NameClass) (h : neededSumBytes ≤ sum.length) :
    ∃ c rest, encodeName sum cls = c :: rest ∧ isNameStart c = true := by
  cases he : encodeName sum cls with
  | nil =>
    have := (length_6_12 sum cls h).1
    simp [he] at this
  | cons c rest =>
    obtain ⟨s, _, _, hlt, hc, _⟩ := encodeName_cons he
    exact ⟨c, rest, rfl, hc ▸ sym_first_start cls s hlt⟩

/-- **export preserved**: exported originals give an upper-case first letter … -/
theorem exported_upper (sum : List UInt8) (c : UInt8) (rest : List UInt8)
    (h : encodeName sum .exported = c :: rest) : isUpper c = true := by
  obtain ⟨s, _, _, hlt, hc, _⟩ := encodeName_cons h
  exact hc ▸ sym_first_exported s hlt

/-- … and unexported originals never do -/
theorem unexported_not_upper (sum : List UInt8) (c : UInt8) (rest : List UInt8)
    (h : encodeName sum .unexported = c :: rest) : isUpper c = false := by
  obtain ⟨s, _, _, hlt, hc, _⟩ := encodeName_cons h
  exact hc ▸ sym_first_unexported s hlt

/-- two 6-bit groups the name encoding cannot tell apart: equal, or the pair `a` / `-` -/
def SymEquiv (m n : Nat) : Prop := m = n ∨ (m = 26 ∧ n = 62) ∨ (m = 62 ∧ n = 26)

/-- pointwise relation between two lists of equal length (core Lean has no `Forall2`) -/
inductive Forall2 (R : α → β → Prop) : List α → List β → Prop
  | nil : Forall2 R [] []
  | cons {a b l1 l2} : R a b → Forall2 R l1 l2 → Forall2 R (a :: l1) (b :: l2)

/-- lists with equal images under `f` are related pointwise by any relation that `f a = f b` forces -/
theorem forall2_of_map_eq {α β : Type} {f : α → β} {R : α → α → Prop} : ∀ {l1 l2 : List α},
    (∀ a ∈ l1, ∀ b ∈ l2, f a = f b → R a b) → l1.map f = l2.map f → Forall2 R l1 l2
  | [], [], _, _ => .nil
  | a :: l1, b :: l2, hR, h => by
    simp only [List.map_cons, List.cons.injEq] at h
    exact .cons (hR a (.head _) b (.head _) h.1)
      (forall2_of_map_eq (fun a ha b hb => hR a (.tail _ ha) b (.tail _ hb)) h.2)

/-- **collision needs a hash-prefix collision**: if two digests produce the same name (whatever the classes),
the names have equal length and every 6-bit group after the first agrees up to the single `a`/`-` merge.
With `length_6_12` that is at least five agreeing groups (≥ 30 bits less one merge each) of the SHA-256 prefix:
distinct identifiers clash only through a genuine collision of the cryptographic hash prefix. -/
theorem collision_needs_prefix (s1 s2 : List UInt8) (c1 c2 : NameClass)
    (h1 : neededSumBytes ≤ s1.length) (h2 : neededSumBytes ≤ s2.length)
    (heq : encodeName s1 c1 = encodeName s2 c2) :
    hashLength s1 = hashLength s2 ∧ Forall2 SymEquiv (syms s1).tail (syms s2).tail := by
  refine ⟨by rw [← encodeName_length s1 c1 h1, ← encodeName_length s2 c2 h2, heq], ?_⟩
  cases he : encodeName s2 c2 with
  | nil =>
    have := (length_6_12 s2 c2 h2).1
    simp [he] at this
  | cons c rest =>
    obtain ⟨a, r1, e1, _, _, hr1⟩ := encodeName_cons (heq.trans he)
    obtain ⟨b, r2, e2, _, _, hr2⟩ := encodeName_cons he
    rw [e1, e2]
    exact forall2_of_map_eq
      (fun m hm n hn => sym_rest_eq (syms_lt s1 m (e1 ▸ .tail a hm)) (syms_lt s2 n (e2 ▸ .tail b hn)))
      (hr1.symm.trans hr2)

/-- at least five groups take part in `collision_needs_prefix` -/
theorem collision_groups (s : List UInt8) (h : neededSumBytes ≤ s.length) : 5 ≤ (syms s).tail.length := by
  have := syms_length s h
  have hb := hashLength_bounds s
  unfold minHashLength at hb
  rw [List.length_tail]
  omega

/-- **pure**: the name is a function of (salt, seed, name, class) — immediate for the model; for the
implementation (three global scratch buffers) this clause is carried by the history correspondence. -/
theorem pure (salt seed name : List UInt8) (cls : NameClass) :
    hashName salt seed name cls = encodeName (GV.Sha256.sumList (salt ++ seed ++ name)) cls := rfl

/-- non-vacuity: a concrete digest meets the hypotheses and produces a 12-character exported name -/
example : neededSumBytes ≤ (List.replicate 32 (0xfb : UInt8)).length := by decide
example : encodeName (List.replicate 32 (0xfb : UInt8)) .exported =
    [65, 95, 118, 55, 97, 95, 118, 55, 97, 95, 118, 55] := by decide   -- "A_v7a_v7a_v7"

end GV.Props.C16
