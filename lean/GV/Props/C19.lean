import GV.Model.DebugDir
/-
C19 — garble touches only its own files.

Proved: the -debugdir ownership decision never deletes a directory that lacks garble's marker (for every kind of
pre-existing target), and the clean-up steps of the top-level commands are in place in the source as it stands
(regenerated step lists): the shared temp dir is removed by a deferred call registered BEFORE anything can fail after
its creation, in build/test/run, reverse and map alike.  That no other file is touched is observed end to end
(recursive hashes of the source tree, TMPDIR listing): partial.
-/
namespace GV.Props.C19
open GV.DebugDir

/-- **foreign content is never wiped**: the only case in which existing content is deleted is a directory that
contains garble's own marker file -/
theorem foreign_never_wiped (t : Target) (h : deletesExisting (decideDir t) = true) : ∃ n, t = .dirWith true n :=
  match t, h with
  | .dirWith true n, _ => ⟨n, rfl⟩

/-- a non-empty directory without the marker, and a regular file, are refused (and so left untouched) -/
theorem unknown_contents_refused (n : Nat) : decideDir (.dirWith false n) = .refuse ∧ decideDir .notADir = .refuse := ⟨rfl, rfl⟩

/-- an owned directory is emptied and recreated, so that it ends up holding only the trees of this build -/
theorem owned_is_recreated (n : Nat) : decideDir (.dirWith true n) = .wipeAndRecreate := rfl

/-- **clean-up on every path**: in build/test/run the removal of GARBLE_SHARED (and the cache trim) is deferred right
after `toolexecCmd` returns — before its error is even looked at — and before the go command is run; reverse and map
defer the removal right after `toolexecCmd` as well, before flags are validated -/
theorem cleanup_registered_first :
    GV.Gen.buildCommandSteps.take 2 = ["toolexecCmd", "defer RemoveAll"] ∧
    GV.Gen.reverseCommandSteps.take 2 = ["toolexecCmd", "defer RemoveAll"] ∧
    GV.Gen.mapCommandSteps.take 2 = ["toolexecCmd", "defer RemoveAll"] := ⟨rfl, rfl, rfl⟩

/-- the go command runs, and the debug dir is restored from the cache, only after the clean-up has been registered -/
theorem run_after_cleanup_registered :
    GV.Gen.buildCommandSteps.idxOf "defer RemoveAll" < GV.Gen.buildCommandSteps.idxOf "Run" ∧
    GV.Gen.buildCommandSteps.idxOf "Run" < GV.Gen.buildCommandSteps.idxOf "restoreDebugDirFromCache" := by decide +kernel

/-- the ownership chain as it stands in main.go (regenerated on every run): not-exist -> nothing; empty -> nothing;
sentinel present -> RemoveAll; anything else -> refuse.  `decideDir` is the reading of exactly this text; a chain that
deletes in another branch, or tests something else, no longer has this shape. -/
theorem debugdir_chain_shape : GV.Gen.debugDirChainShape.toList =
    "if entries, err := os.ReadDir(flagDebugDir); errors.Is(err, fs.ErrNotExist) { } else if err == nil && len(entries) == 0 { } else if _, err := os.Lstat(sentinel); err == nil { if err := os.RemoveAll(flagDebugDir); err != nil { return nil, fmt.Errorf(\"could not empty debugdir: %v\", err) } } else { return nil, fmt.Errorf(\"debugdir %q has unknown contents; empty it first\", origDir) }".toList := by
  rfl

/-- the ownership marker is written together with the directory, before any build step runs: a build that is
interrupted later leaves a directory the next run recognises as its own -/
theorem debugdir_marker_written_at_setup :
    GV.Gen.debugDirSetupSteps = ["ReadDir", "RemoveAll", "MkdirAll", "WriteFile"] := rfl

end GV.Props.C19
