import GV.Model.Flags
import GV.Gen.Steps
/-
C20 — Command lines are split the way the go command splits them.

`goSplit` is the specification: the Go `flag` package's parse loop over the go command's own flag table, which is
regenerated on every run from `go help build`, `go help testflag` and cmd/go's source (`Gen.goFlags`).
garble's tables are regenerated from main.go (`Gen.booleanFlags`, `Gen.forwardBuildFlags`, …).
All theorems are for argument vectors of ANY length.

The theorems about splitting and forwarding are proved for an arbitrary flag table `tbl` and boolean list `bools`
that agree (`hagree`); the regenerated tables enter at the end, through `tables_agree`.
-/
namespace GV.Props.C20
open GV.Flags GV.Gen

/-- `bstr s` is the stored UTF-8 bytes of `s`.  The table facts below rewrite with this before they are evaluated:
`bstr` as defined makes the kernel decode the string into characters and encode them again, three times the work. -/
theorem bstr_eq_bytes : bstr = fun s => s.toByteArray.data.toList := by
  funext s
  rw [← String.utf8Encode_toList]
  simp [bstr, List.utf8Encode]

/-- **tables agree**: every flag documented by the go command is boolean for garble iff it is boolean for go
(re-checked by kernel evaluation against the regenerated tables on every run) -/
theorem tables_agree : ∀ p ∈ goFlags, garbleBools.contains (45 :: bstr p.1) = p.2 := by
  unfold garbleBools
  simp only [bstr_eq_bytes]
  decide +kernel

theorem goTable_sound (nm : Tok) (b : Bool) (h : goTable nm = some b) : garbleBools.contains (45 :: nm) = b := by
  obtain ⟨p, hf, rfl⟩ := Option.map_eq_some_iff.mp h
  have hp : bstr p.1 = nm := by simpa using List.find?_some hf
  rw [← hp]
  exact tables_agree p (List.mem_of_find?_eq_some hf)

/-- **partition**: garble only cuts the vector in two; nothing is dropped, added or reordered -/
theorem split_partition (bools : List Tok) (v : List Tok) :
    (garbleSplit bools v).1 ++ (garbleSplit bools v).2 = v := by
  fun_induction garbleSplit bools v with
  | case1 => rfl
  | case2 a h => simp
  | case3 a h => simp
  | case4 a v rest h => simp
  | case5 a v rest h1 h2 r ih => simp [r, ih]
  | case6 a v rest h1 h2 r ih => simp [r, ih]

theorem cutName_cons (c : UInt8) (r : Tok) (h : c ≠ 61) : cutName (c :: r) = c :: cutName r :=
  List.takeWhile_cons_of_pos (bne_iff_ne.mpr h)

theorem cutName_of_noEq (b : Tok) (h : hasEq b = false) : cutName b = b := by
  have hb : ∀ c ∈ b, (c != 61) = true := by
    intro c hc
    rw [bne_iff_ne]
    rintro rfl
    simp [hasEq, hc] at h
  simpa [cutName] using List.takeWhile_append_of_pos (l₂ := []) hb

theorem hasEq_norm (a : Tok) : hasEq (norm a) = hasEq a := by
  fun_cases norm a
  · rfl
  · rfl

theorem norm_of_dash (a : Tok) (h : dash a = true) : norm a = 45 :: stripDashes a := by
  fun_cases stripDashes a
  case case1 r => rfl
  case case2 r hr => exact norm.eq_2 _ fun r' e => hr r' (List.cons.inj e).2
  case case3 _ h2 =>
    cases a with
    | nil => cases h
    | cons c r =>
      simp [dash] at h
      exact (h2 r (h ▸ rfl)).elim

theorem hasEq_of_dash (a : Tok) (h : dash a = true) : hasEq a = hasEq (stripDashes a) := by
  rw [← hasEq_norm a, norm_of_dash a h]
  rfl

theorem classify_nonflag {tbl} (a : Tok) (h : classify tbl a = .nonflag) : dash a = false := by
  revert h
  fun_cases classify tbl a
  case case1 hd =>
    intro _
    simpa using hd
  all_goals
    intro h
    cases h

/-- what `parseOne` accepting `a` as a flag says about `a`: one or two dashes, then a body that is not empty and
starts with neither `-` nor `=`, whose name the table defines; the flag stands alone iff it is boolean or carries
its value after `=` -/
theorem classify_inv (tbl : Tok → Option Bool) (a : Tok) (k : Kind) (h : classify tbl a = k)
    (hk : k = .alone ∨ k = .needsValue) :
    dash a = true ∧ stripDashes a ≠ [] ∧ (∀ t, stripDashes a ≠ 45 :: t) ∧ (∀ t, stripDashes a ≠ 61 :: t) ∧
      ∃ b, tbl (cutName (stripDashes a)) = some b ∧ (k == .alone) = (b || hasEq (stripDashes a)) := by
  subst h
  revert hk
  fun_cases classify tbl a
  case case7 hd _ h0 h45 h61 ht =>
    exact fun _ => ⟨by simpa using hd, h0, h45, h61, true, ht, rfl⟩
  case case8 hd _ h0 h45 h61 ht he =>
    exact fun _ => ⟨by simpa using hd, h0, h45, h61, false, ht, he ▸ rfl⟩
  case case9 hd _ h0 h45 h61 ht he =>
    exact fun _ => ⟨by simpa using hd, h0, h45, h61, false, ht, by simp [he]⟩
  all_goals
    intro hk
    simp at hk

/-- the flag's name as garble looks it up: `-name` (one dash, value cut off) -/
def lookupName (a : Tok) : Tok := cutName (norm a)

/-- specification of the forward filter in terms of GO's parse: keep exactly the flags (with their values) whose
name is a forwarded build flag, `--f` normalised to `-f` -/
def fwdSpec (tbl : Tok → Option Bool) (fwd : Tok → Bool) : List Tok → List Tok
  | [] => []
  | [a] => if fwd (lookupName a) then [norm a] else []
  | a :: v :: rest =>
    match classify tbl a with
    | .needsValue => (if fwd (lookupName a) then [norm a, v] else []) ++ fwdSpec tbl fwd rest
    | _ => (if fwd (lookupName a) then [norm a] else []) ++ fwdSpec tbl fwd (v :: rest)

/-- is every flag of the list a forwarded build flag (per go's parse)? -/
def allFwd (tbl : Tok → Option Bool) (fwd : Tok → Bool) : List Tok → Bool
  | [] => true
  | [a] => fwd (lookupName a)
  | a :: v :: rest =>
    match classify tbl a with
    | .needsValue => fwd (lookupName a) && allFwd tbl fwd rest
    | _ => fwd (lookupName a) && allFwd tbl fwd (v :: rest)

/-- every flag go accepts has a name the empty flag set rejects (so the reverse/map error really is an error) -/
theorem lookupName_parseFails (tbl : Tok → Option Bool) (a : Tok) {k : Kind} (h : classify tbl a = k)
    (hk : k = .alone ∨ k = .needsValue) : parseFails (lookupName a) = true := by
  obtain ⟨hd, h0, h45, h61, -⟩ := classify_inv tbl a k h hk
  unfold lookupName
  rw [norm_of_dash a hd]
  cases hs : stripDashes a with
  | nil => exact absurd hs h0
  | cons c r =>
    rw [cutName_cons 45 _ (by decide), cutName_cons c r fun e => h61 r (e ▸ hs)]
    exact parseFails.eq_2 c _ fun e _ => h45 r (e ▸ hs)

/-- induction over the flag lists go parses completely as flags -/
@[elab_as_elim]
theorem goSplit_flags_induct (tbl : Tok → Option Bool) {P : List Tok → Prop} (nil : P [])
    (single : ∀ a, classify tbl a = .alone → P [a])
    (alone : ∀ a v rest, classify tbl a = .alone → P (v :: rest) → P (a :: v :: rest))
    (value : ∀ a v rest, classify tbl a = .needsValue → P rest → P (a :: v :: rest))
    (fl : List Tok) (h : goSplit tbl fl = some (fl, [])) : P fl := by
  fun_induction goSplit tbl fl with
  | case1 => exact nil
  | case2 a hc => cases h
  | case3 a hc => exact single a hc
  | case4 a hc1 hc2 => cases h
  | case5 a v rest hc => cases h
  | case6 a v rest hc ih =>
    obtain ⟨⟨_, _⟩, hr, e⟩ := Option.map_eq_some_iff.mp h
    cases e
    exact alone _ _ _ hc (ih hr)
  | case7 a v rest hc ih =>
    obtain ⟨⟨_, _⟩, hr, e⟩ := Option.map_eq_some_iff.mp h
    cases e
    exact value _ _ _ hc (ih hr)
  | case8 a v rest h1 h2 h3 => cases h

/-- one round of the loop in `filterForwardBuildFlags`, seen from the end of the list: a name `o` recorded further on
stays, otherwise this flag's `name` is recorded unless the flag is forwarded (`ok`) -/
theorem unknown_step (p : Tok → Bool) {o : Option Tok} {ok : Bool} {name : Tok} (ho : o.all p = true)
    (hn : p name = true) :
    (if o.isSome then o else if ok then none else some name).isNone = (ok && o.isNone) ∧
      (if o.isSome then o else if ok then none else some name).all p = true := by
  cases o <;> cases ok <;> simp_all

section agree
variable {tbl : Tok → Option Bool} {bools : List Tok}
  (hagree : ∀ nm b, tbl nm = some b → bools.contains (45 :: nm) = b)
include hagree

/-- a token go accepts as a flag is a flag for garble, and garble's "does not consume the next argument" test
(`booleanFlags[arg] || strings.Contains(arg, "=")`) agrees with go's -/
theorem classify_flag (a : Tok) {k : Kind} (h : classify tbl a = k) (hk : k = .alone ∨ k = .needsValue) :
    dash a = true ∧ ((bools.contains (norm a) || hasEq a) = (k == .alone)) := by
  obtain ⟨hd, -, -, -, b, ht, hb⟩ := classify_inv tbl a k h hk
  refine ⟨hd, ?_⟩
  rw [norm_of_dash a hd, hasEq_of_dash a hd, hb]
  cases he : hasEq (stripDashes a) with
  | true => simp
  | false =>
    rw [cutName_of_noEq _ he] at ht
    rw [hagree _ _ ht]

theorem garble_bool_of_alone {a : Tok} (h : classify tbl a = .alone) : (bools.contains (norm a) || hasEq a) = true :=
  (classify_flag hagree a h (.inl rfl)).2

theorem garble_bool_of_needsValue {a : Tok} (h : classify tbl a = .needsValue) :
    (bools.contains (norm a) || hasEq a) = false :=
  (classify_flag hagree a h (.inr rfl)).2

theorem garbleSplit_eq_goSplit (v : List Tok) (r : List Tok × List Tok) (h : goSplit tbl v = some r) :
    garbleSplit bools v = r := by
  fun_induction goSplit tbl v generalizing r with
  | case1 => exact Option.some.inj h
  | case2 a hc =>
    cases h
    simp [garbleSplit, classify_nonflag a hc]
  | case3 a hc =>
    cases h
    simp [garbleSplit, (classify_flag hagree a hc (.inl rfl)).1]
  | case4 a hc1 hc2 => cases h
  | case5 a v rest hc =>
    cases h
    simp [garbleSplit, classify_nonflag a hc]
  | case6 a v rest hc ih =>
    obtain ⟨r', hr, rfl⟩ := Option.map_eq_some_iff.mp h
    simp only [garbleSplit, (classify_flag hagree a hc (.inl rfl)).1, garble_bool_of_alone hagree hc, ih r' hr,
      Bool.not_true, Bool.false_eq_true, if_false, if_true]
  | case7 a v rest hc ih =>
    obtain ⟨r', hr, rfl⟩ := Option.map_eq_some_iff.mp h
    simp only [garbleSplit, (classify_flag hagree a hc (.inr rfl)).1, garble_bool_of_needsValue hagree hc, ih r' hr,
      Bool.not_true, Bool.false_eq_true, if_false]
  | case8 a v rest h1 h2 h3 => cases h

theorem filterForward_eq_fwdSpec (fwd : Tok → Bool) (fl : List Tok) (h : goSplit tbl fl = some (fl, [])) :
    (filterForward fwd bools fl).1 = fwdSpec tbl fwd fl := by
  refine goSplit_flags_induct tbl ?_ ?_ ?_ ?_ fl h
  · rfl
  · intro a _
    simp only [filterForward, apply_ite Prod.fst]
    rfl
  · intro a v rest hc ih
    simp only [filterForward, fwdSpec, hc, hasEq_norm, garble_bool_of_alone hagree hc, ih, if_true]
    rfl
  · intro a v rest hc ih
    simp only [filterForward, fwdSpec, hc, hasEq_norm, garble_bool_of_needsValue hagree hc, ih, Bool.false_eq_true, if_false]
    rfl

/-- no name is recorded iff every flag is forwarded, and a recorded name makes the empty flag set fail -/
theorem filterForward_unknown (fwd : Tok → Bool) (fl : List Tok) (h : goSplit tbl fl = some (fl, [])) :
    (filterForward fwd bools fl).2.isNone = allFwd tbl fwd fl ∧ (filterForward fwd bools fl).2.all parseFails = true := by
  refine goSplit_flags_induct tbl ?_ ?_ ?_ ?_ fl h
  · exact ⟨rfl, rfl⟩
  · intro a hc
    have pf : parseFails (cutName (norm a)) = true := lookupName_parseFails tbl a hc (.inl rfl)
    simp only [filterForward, allFwd, lookupName, apply_ite Prod.snd]
    cases fwd (cutName (norm a))
    · exact ⟨rfl, pf⟩
    · exact ⟨rfl, rfl⟩
  · intro a v rest hc ⟨ih1, ih2⟩
    simp only [filterForward, allFwd, hc, hasEq_norm, garble_bool_of_alone hagree hc, ← ih1, if_true]
    exact unknown_step parseFails ih2 (lookupName_parseFails tbl a hc (.inl rfl))
  · intro a v rest hc ⟨ih1, ih2⟩
    simp only [filterForward, allFwd, hc, hasEq_norm, garble_bool_of_needsValue hagree hc, ← ih1, Bool.false_eq_true, if_false]
    exact unknown_step parseFails ih2 (lookupName_parseFails tbl a hc (.inr rfl))

theorem rejectUnknown_eq (fwd : Tok → Bool) (fl : List Tok) (h : goSplit tbl fl = some (fl, [])) :
    rejectUnknown fwd bools fl = !(allFwd tbl fwd fl) := by
  obtain ⟨h1, h2⟩ := filterForward_unknown hagree fwd fl h
  unfold rejectUnknown
  rw [← h1]
  cases hr : (filterForward fwd bools fl).2 with
  | none => rfl
  | some n => simpa [hr] using h2

end agree

/-- **garble splits like go**: for every argument vector that the go command itself accepts (all flag tokens
documented, in `-f`, `--f`, `-f=v`, `--f=v`, `-f v` forms; values, packages and file names arbitrary, including ones
that look like flags), garble's split into flags and arguments is exactly go's -/
theorem split_eq_goSplit (v : List Tok) (r : List Tok × List Tok)
    (h : goSplit goTable v = some r) : garbleSplit garbleBools v = r :=
  garbleSplit_eq_goSplit goTable_sound v r h

/-- **forward exact**: for a flag list go parses completely as flags, the list handed to `go list` is exactly the
forwarded build flags with their values, in order -/
theorem forward_exact (fwd : Tok → Bool) (fl : List Tok) (h : goSplit goTable fl = some (fl, [])) :
    (filterForward fwd garbleBools fl).1 = fwdSpec goTable fwd fl :=
  filterForward_eq_fwdSpec goTable_sound fwd fl h

/-- **unknown flags rejected** (reverse / map): for a flag list go parses completely, the check fails exactly when
some flag is not a forwarded build flag -/
theorem reject_iff (fwd : Tok → Bool) (fl : List Tok) (h : goSplit goTable fl = some (fl, [])) :
    rejectUnknown fwd garbleBools fl = !(allFwd goTable fwd fl) :=
  rejectUnknown_eq goTable_sound fwd fl h

/-- **forward complete**: every flag listed by `go help build` reaches the internal package listing, except the
ones that must not be repeated in a nested go command (-a -n -x -v), the ones garble always sets itself
(-trimpath -toolexec -buildvcs) and the output-format flag -json -/
theorem forward_complete : ∀ n ∈ goBuildFlags,
    n ∈ ["a", "n", "x", "v", "trimpath", "toolexec", "buildvcs", "json"] ∨ garbleFwd (45 :: bstr n) = true := by
  unfold garbleFwd
  simp only [bstr_eq_bytes]
  decide +kernel

/-- the pattern source as it stands in main.go -/
theorem rx_source : rxGarbleFlagSource.toList = "^--?(?:literals|tiny|debug|debugdir|seed)(?:$|=)".toList := by
  rfl
/-- its alternatives are exactly garble's registered flags -/
theorem rx_alternatives : garbleOwnFlags = ["debug", "debugdir", "literals", "seed", "tiny"] := by
  rfl

/-- what the anchored pattern matches: one or two dashes, one of the alternatives, then the end or `=` -/
theorem rxGarbleMatch_iff (own : List Tok) (a : Tok) :
    rxGarbleMatch own a = true ↔ ∃ w ∈ own, norm a = 45 :: w ∨ ∃ v, norm a = 45 :: w ++ 61 :: v := by
  unfold rxGarbleMatch
  split
  · rename_i r hn
    rw [hn, List.any_eq_true]
    refine exists_congr fun w => and_congr_right fun _ => ?_
    rw [Bool.and_eq_true, List.isPrefixOf_iff_prefix]
    constructor
    · rintro ⟨⟨t, rfl⟩, ht⟩
      rw [List.drop_left] at ht
      cases t with
      | nil => exact .inl (by rw [List.append_nil])
      | cons c t =>
        obtain rfl : c = 61 := beq_iff_eq.mp ht
        exact .inr ⟨t, rfl⟩
    · rintro (e | ⟨v, e⟩) <;> cases e <;> simp
  · rename_i hn
    refine iff_of_false Bool.false_ne_true ?_
    rintro ⟨w, -, e | ⟨v, e⟩⟩ <;> exact hn _ e

theorem norm_single_dash (t : Tok) (h : t.head? ≠ some 45) : norm (45 :: t) = 45 :: t :=
  norm.eq_2 _ fun r e => h (by cases e; rfl)

/-- an alternative that does not itself begin with a dash (else `-w` would read as `--…`) is matched in all four forms -/
theorem rxGarbleMatch_own (own : List Tok) (w : Tok) (hw : w ∈ own) (h : w.head? ≠ some 45) (v : Tok) :
    rxGarbleMatch own (45 :: w) = true ∧ rxGarbleMatch own (45 :: 45 :: w) = true ∧
    rxGarbleMatch own (45 :: w ++ 61 :: v) = true ∧ rxGarbleMatch own (45 :: 45 :: w ++ 61 :: v) = true := by
  have h' : (w ++ 61 :: v).head? ≠ some 45 := by
    cases w with
    | nil => simp
    | cons c r => exact h
  simp only [rxGarbleMatch_iff]
  exact ⟨⟨w, hw, .inl (norm_single_dash w h)⟩, ⟨w, hw, .inl rfl⟩, ⟨w, hw, .inr ⟨v, norm_single_dash _ h'⟩⟩,
    ⟨w, hw, .inr ⟨v, rfl⟩⟩⟩

/-- **garble flags after the command are rejected**, in the forms -f, --f, -f=v, --f=v -/
theorem garble_flag_rejected : ∀ w ∈ garbleOwn, ∀ v : Tok,
    rxGarbleMatch garbleOwn (45 :: w) = true ∧ rxGarbleMatch garbleOwn (45 :: 45 :: w) = true ∧
    rxGarbleMatch garbleOwn (45 :: w ++ 61 :: v) = true ∧ rxGarbleMatch garbleOwn (45 :: 45 :: w ++ 61 :: v) = true := by
  have hd : ∀ w ∈ garbleOwn, w.head? ≠ some 45 := by
    unfold garbleOwn
    simp only [bstr_eq_bytes]
    decide +kernel
  exact fun w hw => rxGarbleMatch_own garbleOwn w hw (hd w hw)

/-- the rejection is applied to EVERY flag token after the command: the loop in `toolexecCmd` is, textually, a plain
`range` over the flag tokens whose only statement is the match-and-fail (regenerated from main.go on every run; a loop
that skips positions, as a "value of the previous flag" heuristic would, no longer has this shape) -/
theorem reject_loop_shape : GV.Gen.rejectLoopShape.toList =
    "for _, flag := range listFlags { if rxGarbleFlag.MatchString(flag) { return nil, fmt.Errorf(\"garble flags must precede command, like: garble %s build ./pkg\", flag) } }".toList := by
  rfl

/-- the model of that loop -/
def rejectsAfterCommand (flags : List Tok) : Bool := flags.any (rxGarbleMatch garbleOwn)

/-- wherever a garble flag stands among the flag tokens - after a boolean flag written with one or two dashes, after a
`-name=value`, anywhere - the command line is rejected -/
theorem garble_flag_anywhere_rejected (pre post : List Tok) (w : Tok) (hw : w ∈ garbleOwn) (v : Tok) :
    rejectsAfterCommand (pre ++ (45 :: w) :: post) = true ∧ rejectsAfterCommand (pre ++ (45 :: 45 :: w) :: post) = true ∧
    rejectsAfterCommand (pre ++ (45 :: w ++ 61 :: v) :: post) = true ∧ rejectsAfterCommand (pre ++ (45 :: 45 :: w ++ 61 :: v) :: post) = true := by
  have hr : ∀ t, rxGarbleMatch garbleOwn t = true → rejectsAfterCommand (pre ++ t :: post) = true := by
    intro t ht
    simp [rejectsAfterCommand, ht]
  obtain ⟨h1, h2, h3, h4⟩ := garble_flag_rejected w hw v
  exact ⟨hr _ h1, hr _ h2, hr _ h3, hr _ h4⟩

/-- **and nothing else is**: a rejected token is one of garble's flags, alone or with `=value`; in particular a
value such as `-tags=my-debug` or `out-tiny` is never rejected -/
theorem rx_only_own (a : Tok) (h : rxGarbleMatch garbleOwn a = true) :
    ∃ w ∈ garbleOwn, norm a = 45 :: w ∨ ∃ v, norm a = 45 :: w ++ 61 :: v :=
  (rxGarbleMatch_iff garbleOwn a).mp h

/-! ### `garble test`: flags may follow the package list (as `go test` allows) -/

def isFlagTok (t : Tok) : Bool := t.head? == some 45

/-- model of the `if command == "test"` block of toolexecCmd: (listFlags, listArgs) -/
def testSplit (flags args : List Tok) : List Tok × List Tok :=
  let rest := args.dropWhile (fun a => !isFlagTok a)
  (flags ++ rest.takeWhile (fun a => a != bstr "-args" && a != bstr "--args"), args.takeWhile (fun a => !isFlagTok a))

/-- the block as it stands in main.go (regenerated on every run) -/
theorem test_split_shape : GV.Gen.testSplitShape.toList =
    "{ n := 0 for n < len(args) && !strings.HasPrefix(args[n], \"-\") { n++ } rest := args[n:] for i, arg := range rest { if arg == \"-args\" || arg == \"--args\" { rest = rest[:i] break } } listFlags = append(flags[:len(flags):len(flags)], rest...) listArgs = args[:n:n] }".toList := by
  rfl

/-- only the leading non-flag arguments are listed as packages, and they are all non-flags -/
theorem testSplit_packages (flags args : List Tok) :
    (testSplit flags args).2 = args.takeWhile (fun a => !isFlagTok a) ∧ ∀ a ∈ (testSplit flags args).2, isFlagTok a = false := by
  refine ⟨rfl, fun a ha => ?_⟩
  simpa using List.all_eq_true.mp List.all_takeWhile a ha

/-- after packages `pkgs`, what is listed as flags is `rest` (which is empty or begins with a flag) up to `-args` -/
theorem testSplit_fst (flags pkgs rest : List Tok) (hp : ∀ a ∈ pkgs, isFlagTok a = false)
    (hr : ∀ a, rest.head? = some a → isFlagTok a = true) :
    (testSplit flags (pkgs ++ rest)).1 = flags ++ rest.takeWhile (fun a => a != bstr "-args" && a != bstr "--args") := by
  unfold testSplit
  rw [List.dropWhile_append_of_pos (by simpa using hp)]
  cases rest with
  | nil => rfl
  | cons a t => rw [List.dropWhile_cons_of_neg (by simp [hr a rfl])]

/-- a garble flag placed after the packages (and before `-args`) is rejected like one placed before them -/
theorem testSplit_rejects_trailing_garble_flag (flags pkgs pre post : List Tok) (w : Tok) (hw : w ∈ garbleOwn)
    (hp : ∀ a ∈ pkgs, isFlagTok a = false)
    (hpre : ∀ a ∈ pre, a ≠ bstr "-args" ∧ a ≠ bstr "--args") (hne : pre ≠ [] → ∀ a, pre.head? = some a → isFlagTok a = true) :
    rejectsAfterCommand (testSplit flags (pkgs ++ pre ++ (45 :: w) :: post)).1 = true := by
  have hargs : ∀ w ∈ garbleOwn, ((45 :: w) != bstr "-args" && (45 :: w) != bstr "--args") = true := by
    unfold garbleOwn
    simp only [bstr_eq_bytes]
    decide +kernel
  have hr : ∀ a, (pre ++ (45 :: w) :: post).head? = some a → isFlagTok a = true := by
    cases pre with
    | nil =>
      rintro a ⟨⟩
      rfl
    | cons b t => exact hne (List.cons_ne_nil b t)
  rw [List.append_assoc, testSplit_fst flags pkgs _ hp hr, List.takeWhile_append_of_pos (by simpa using hpre)]
  simp [rejectsAfterCommand, hargs w hw, (garble_flag_rejected w hw []).1]

/-- what follows `-args` belongs to the test binary: it is neither forwarded nor checked -/
theorem testSplit_stops_at_args (flags pre post : List Tok) (hpre : ∀ a ∈ pre, a ≠ bstr "-args" ∧ a ≠ bstr "--args")
    (h0 : ∀ a, pre.head? = some a → isFlagTok a = true) (hne : pre ≠ []) :
    (testSplit flags (pre ++ bstr "-args" :: post)).1 = flags ++ pre := by
  have hr : ∀ a, (pre ++ bstr "-args" :: post).head? = some a → isFlagTok a = true := by
    cases pre with
    | nil => exact absurd rfl hne
    | cons b t => exact h0
  rw [← List.nil_append (pre ++ _), testSplit_fst flags [] _ (by simp) hr, List.takeWhile_append_of_pos (by simpa using hpre),
    List.takeWhile_cons_of_neg (by simp), List.append_nil]

/-- the hoisted flag is a contiguous piece of the flag list, and the rest is the list without it: nothing is dropped,
duplicated or reordered - for every flag list -/
theorem splitChdir_partition (bools : List Tok) : ∀ (flags : List Tok),
    ∃ pre post, flags = pre ++ (splitChdir bools flags).1 ++ post ∧ (splitChdir bools flags).2 = pre ++ post := by
  intro flags
  fun_induction splitChdir bools flags with
  | case1 => exact ⟨[], [], rfl, rfl⟩
  | case2 a0 h => exact ⟨[], [], by simp, rfl⟩
  | case3 a0 h => exact ⟨[a0], [], by simp, rfl⟩
  | case4 a0 v rest a h => exact ⟨[], rest, by simp, rfl⟩
  | case5 a0 v rest a h1 h2 => exact ⟨[], v :: rest, by simp, rfl⟩
  | case6 a0 v rest a h1 h2 h3 r ih =>
    obtain ⟨pre, post, e1, e2⟩ := ih
    exact ⟨a0 :: pre, post, by simp only [List.cons_append]; rw [← e1], by simp only [List.cons_append]; rw [← e2]⟩
  | case7 a0 v rest a h1 h2 h3 r ih =>
    obtain ⟨pre, post, e1, e2⟩ := ih
    exact ⟨a0 :: v :: pre, post, by simp only [List.cons_append]; rw [← e1], by simp only [List.cons_append]; rw [← e2]⟩

/-- the nested go command ends with the user's vector, unchanged and in order -/
theorem nested_preserves_user_args (cmd : Tok) (fixed : List Tok) (tool : Tok) (extra v : List Tok) :
    ∃ pre, nestedGoArgs cmd fixed tool extra (garbleSplit garbleBools v).1 (garbleSplit garbleBools v).2 = pre ++ v := by
  refine ⟨[cmd] ++ fixed ++ [tool] ++ extra, ?_⟩
  unfold nestedGoArgs
  rw [List.append_assoc, split_partition]

/-- non-vacuity: go accepts `-race --tags x -ldflags=-X=main.v=1 ./pkg -tiny` and splits it after the flags -/
example : goSplit goTable [bstr "-race", bstr "--tags", bstr "x", bstr "-ldflags=-X=main.v=1", bstr "./pkg", bstr "-tiny"] =
    some ([bstr "-race", bstr "--tags", bstr "x", bstr "-ldflags=-X=main.v=1"], [bstr "./pkg", bstr "-tiny"]) := by
  unfold goTable
  simp only [bstr_eq_bytes]
  decide +kernel

end GV.Props.C20
