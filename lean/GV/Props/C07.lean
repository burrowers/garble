import GV.Props.C06
/-
C07 — Missing or damaged cache entries are recomputed, never trusted.

Two layers.  (1) The store: `get_never_wrong` — after ANY sequence of faults (entries deleted, emptied/truncated,
whole cache wiped) a lookup either misses or returns exactly the value that was put (C06's `fault_sound` +
`history_correct` already give: every build in every history of builds and faults returns the cold result).
(2) The recursion of `loadPkgCache` / `computePkgCache` over the import graph: if every readable entry is sound,
loading any package — recomputing missing dependencies recursively, at any depth — returns what a computation from
empty caches returns.
-/
namespace GV.Props.C07
open GV.Cache GV.Props.C06

variable {K V : Type} [DecidableEq K]

/-- a sequence of faults -/
def faults (s : Store K V) : List (Fault K) → Store K V
  | [] => s
  | f :: fs => faults (s.fault f) fs

theorem faults_sound {cold : K → V} : ∀ (fs : List (Fault K)) {s : Store K V}, s.Sound cold → (faults s fs).Sound cold
  | [], _, h => h
  | f :: fs, s, h => faults_sound fs (fault_sound s cold f h)

/-- **a lookup is never wrong**: starting from a store in which every readable entry is the value put for its key,
after any fault sequence a lookup misses or returns that value -/
theorem get_never_wrong (cold : K → V) : ∀ (fs : List (Fault K)) (s : Store K V), s.Sound cold →
    ∀ k, (faults s fs).get k = none ∨ (faults s fs).get k = some (cold k) :=
  fun fs _ h => (faults_sound fs h).get

/-- the import graph: packages are numbered so that dependencies have smaller numbers -/
structure Graph where
  deps : Nat → List Nat
  acyclic : ∀ p d, d ∈ deps p → d < p

/-- the result of analysing package `p` from EMPTY caches: its own analysis `f` applied to the results of its direct
dependencies (each of which is "deep": already merged with its own dependencies) -/
def cold (g : Graph) (f : Nat → List V → V) (p : Nat) : V :=
  f p ((g.deps p).attach.map fun ⟨d, hd⟩ => cold g f d)
termination_by p
decreasing_by exact g.acyclic p d hd

/-- `loadPkgCache`: a hit is trusted; on a miss the entry is computed from the (recursively loaded) dependencies.
(The write-back of computed entries does not change results — `build_sound` — and is left out of this pure view.) -/
def load (g : Graph) (f : Nat → List V → V) (s : Store Nat V) (p : Nat) : V :=
  match s.get p with
  | some v => v
  | none => f p ((g.deps p).attach.map fun ⟨d, hd⟩ => load g f s d)
termination_by p
decreasing_by exact g.acyclic p d hd

/-- **load = cold**: with only sound entries present (any subset of packages, at any depth of the import graph), every
package loads to exactly its cold result -/
theorem load_eq_cold (g : Graph) (f : Nat → List V → V) (s : Store Nat V) (hs : s.Sound (cold g f)) :
    ∀ p, load g f s p = cold g f p := by
  intro p
  induction p using Nat.strongRecOn with
  | _ p ih =>
    unfold load
    cases hg : s.get p with
    | some v => exact hs p v hg
    | none =>
      simp only
      rw [cold]
      congr 1
      apply List.map_congr_left
      intro ⟨d, hd⟩ _
      exact ih d (g.acyclic p d hd)

/-- … and this stays true after any sequence of faults on a sound cache: the next build behaves like a build from
empty caches, whatever subset of entries was deleted, emptied or truncated -/
theorem load_after_faults (g : Graph) (f : Nat → List V → V) (s : Store Nat V) (hs : s.Sound (cold g f))
    (fs : List (Fault Nat)) (p : Nat) : load g f (faults s fs) p = cold g f p :=
  load_eq_cold g f _ (faults_sound fs hs) p

/-- non-vacuity: a diamond-shaped graph 3 → {1, 2} → 0 -/
def diamond : Graph :=
  ⟨fun p => match p with | 3 => [1, 2] | 2 => [0] | 1 => [0] | _ => [],
   by intro p d h; match p, h with
      | 3, h => simp at h; omega
      | 2, h => simp at h; omega
      | 1, h => simp at h; omega
      | 0, h => simp at h
      | _ + 4, h => simp at h⟩
example : diamond.deps 3 = [1, 2] ∧ diamond.deps 1 = [0] := ⟨rfl, rfl⟩

end GV.Props.C07
