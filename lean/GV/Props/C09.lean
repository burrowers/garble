import GV.Model.Literals
import GV.Gen.LitConsts
import GV.Props.C05
/-
C09 — With -literals, literal contents do not appear in the binary.

Proved: which expressions are rewritten (decision over a context record, window constants regenerated from
literals.go), and for the `simple` strategy that the stored ciphertext differs from the plaintext at every position
where the key byte is non-zero (an aligned leak needs an all-zero key window).  That the plaintext cannot occur in the
binary BY COINCIDENCE elsewhere is a probability statement and is not proved: partial; the marker scan samples it.
-/
namespace GV.Props.C09
open GV.Literals GV.Gen.Lit

/-- what `literals.Obfuscate` looks at for one expression -/
structure LitCtx where
  isConstString : Bool        -- has a constant value and its type is exactly `string`
  len : Nat                   -- length of the value / number of composite elements
  inConstDecl : Bool          -- under a `const` GenDecl
  inNosplitFunc : Bool        -- under a FuncDecl whose doc has //go:nosplit
  inLinkerVarSpec : Bool      -- under the ValueSpec of a -ldflags=-X target
  isByteComposite : Bool      -- []byte{…} / [N]byte{…} (also behind &) whose elements are all constant integers
  pkgInScope : Bool           -- the package is selected by GOGARBLE (transformGoFile's guard)

def inWindow (n : Nat) : Bool := MinSize ≤ n && n ≤ MaxSize

/-- the decision of the AST walk (pre: subtrees skipped; post: expressions replaced) -/
def shouldObfuscate (c : LitCtx) : Bool :=
  c.pkgInScope && !c.inConstDecl && !c.inNosplitFunc && !c.inLinkerVarSpec &&
  (c.isConstString || c.isByteComposite) && inWindow c.len

/-- the property's list of exemptions -/
def Exempt (c : LitCtx) : Prop :=
  c.pkgInScope = false ∨ c.inConstDecl = true ∨ c.inNosplitFunc = true ∨ c.inLinkerVarSpec = true ∨
  (c.isConstString = false ∧ c.isByteComposite = false) ∨ c.len < 8 ∨ 2048 < c.len

theorem window : MinSize = 8 ∧ MaxSize = 2048 := ⟨rfl, rfl⟩

/-- **rewritten ⇔ not exempt**, with the documented window 8 bytes … 2 KiB (constants regenerated from the source) -/
theorem rewritten_iff_not_exempt (c : LitCtx) : shouldObfuscate c = true ↔ ¬ Exempt c := by
  -- both sides are the same conjunction once `&&`, `!`, `decide` and the negated disjunction are pushed through
  simp only [shouldObfuscate, Exempt, inWindow, window.1, window.2, Bool.and_eq_true, Bool.or_eq_true,
    Bool.not_eq_true', decide_eq_true_eq, not_or, Decidable.not_and_iff_not_or_not, Nat.not_lt, Bool.not_eq_false,
    Bool.not_eq_true, and_assoc]

/-- a byte operator leaves a byte unchanged only for the zero key byte -/
theorem op_fixed_iff_zero (op : Op) (x k : UInt8) : op.eval x k = x ↔ k = 0 := by
  cases op
  · have := UInt8.xor_right_inj (a := k) (b := 0) x
    rwa [UInt8.xor_zero] at this
  · exact UInt8.add_eq_left
  · exact UInt8.sub_eq_iff_eq_add.trans UInt8.left_eq_add

/-- **aligned leak ⇔ zero key** (`simple`): the stored ciphertext agrees with the plaintext at position i exactly when
the i-th key byte is zero; so the whole plaintext survives in place only under an all-zero key -/
theorem simple_cipher_differs (op : Op) : ∀ (d k : Bytes), d.length = k.length →
    (zipOp op d k = d ↔ ∀ b ∈ k, b = 0) := by
  intro d
  induction d with
  | nil => intro k h; cases k <;> simp_all [zipOp]
  | cons x xs ih =>
    intro k h
    cases k with
    | nil => simp at h
    | cons y ys =>
      simp only [zipOp, List.cons.injEq, op_fixed_iff_zero, List.mem_cons, forall_eq_or_imp]
      rw [ih ys (by simpa using h)]

/-- non-vacuity: a 10-byte string constant in an ordinary position of an in-scope package is rewritten -/
example : shouldObfuscate ⟨true, 10, false, false, false, false, true⟩ = true := by decide

end GV.Props.C09
