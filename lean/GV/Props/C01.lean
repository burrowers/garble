import GV.Proofs.Naming
/-
C01 — Obfuscated builds behave exactly like regular builds (the naming-consistency part).

A renamed program keeps its behaviour only if every occurrence of an object, in every package and in every kind of
source (Go, assembly, go_asm.h, //go:linkname, -ldflags=-X), is renamed to the SAME new name.  Go-source occurrences
all go through `decideObj`; the theorems below show that each of the four re-implementations of that decision agrees
with it, for every configuration, package and name, under explicitly stated hypotheses.  Where a theorem assumes that
the Go-source decision is a rename (`hd`), that alone implies "not special" and "not exempt": the hypotheses saying so
again (`hs`, `hx`, `hm`, …) are part of the statements and the proofs do not use them (hence the linter option);
`asm_func_agrees` and `exempt_names_disagree` show where the exemption matters.
Preservation of behaviour under a consistent injective renaming is NOT proved (no Go semantics here): partial, and
sampled by the end-to-end differential runs.
-/
set_option linter.unusedVariables false
namespace GV.Props.C01
open GV.Naming GV.Salt GV.NameHash

/-- a package-level function object of package `P` -/
def funcObj (P : Pkg) (name : Bytes) (cls : NameClass) (testSig : Bool) : Obj :=
  { kind := .func, name := name, cls := cls, pkgPath := some P.path, hasRecv := false, testSig := testSig }
def methodObj (P : Pkg) (name : Bytes) (cls : NameClass) : Obj :=
  { kind := .func, name := name, cls := cls, pkgPath := some P.path, hasRecv := true, testSig := false }
def varObj (P : Pkg) (name : Bytes) (cls : NameClass) : Obj :=
  { kind := .var, name := name, cls := cls, pkgPath := some P.path }
def typeObj (P : Pkg) (name : Bytes) (cls : NameClass) : Obj :=
  { kind := .typeName, name := name, cls := cls, pkgPath := some P.path }
def fieldObj (P : Pkg) (name : Bytes) (cls : NameClass) (h : Nat) : Obj :=
  { kind := .field, name := name, cls := cls, pkgPath := some P.path, structHash := some h }

/-- names the Go-source path keeps for functions but the directive/assembly paths do not know about -/
def FuncExempt (name : Bytes) (testSig : Bool) : Prop :=
  name = str "main" ∨ name = str "init" ∨ name = str "TestMain" ∨ (hasPrefix (str "Test") name = true ∧ testSig = true)

/-- **one decision per object**: the result depends on the object and the shared build data only — two occurrences
of the same object (same descriptor) in any two packages whose listings resolve its package alike get one name -/
theorem decide_by_object (env1 env2 : Env) (o : Obj) (hc : env1.cfg = env2.cfg)
    (hl : ∀ p, o.pkgPath = some p → env1.lookup p = env2.lookup p)
    (hi : ∀ p, o.pkgPath = some p → env1.intrinsic p o.name = env2.intrinsic p o.name) :
    decideObj env1 o = decideObj env2 o := by
  unfold decideObj
  cases hp : o.pkgPath with
  | none => rfl
  | some path => simp only [hl path hp, hi path hp, pkgHash, fieldHash, hc]

/-- **an interface method and any method implementing it agree**: in the model both are the same descriptor
(`methodObj`: a `func` object with a receiver, identified by package, name and exportedness), so this is congruence;
that the two do get the same descriptor is what the correspondence check ties to the code -/
theorem method_interface_agree (env : Env) (P : Pkg) (name : Bytes) (cls : NameClass) (o1 o2 : Obj)
    (h1 : o1 = methodObj P name cls) (h2 : o2 = methodObj P name cls) : decideObj env o1 = decideObj env o2 := by
  rw [h1, h2]

theorem exported_method_kept (env : Env) (P : Pkg) (name : Bytes) :
    decideObj env (methodObj P name .exported) = .keep ∨ decideObj env (methodObj P name .exported) = .panic := by
  cases hs : specialKeep P.path name with
  | true => exact .inl (decideObj_special rfl hs)
  | false =>
    cases hl : env.lookup P.path with
    | notFound => exact .inr (decideObj_unlisted rfl hs (.inl hl))
    | notDependency => exact .inr (decideObj_unlisted rfl hs (.inr hl))
    | found lp =>
      cases ho : lp.toObfuscate with
      | false => exact .inl (decideObj_not_obfuscated rfl hl ho)
      | true =>
        rw [decideObj_obfuscated (o := methodObj P name .exported) rfl hs hl ho]
        simp [methodObj]

/-- the decision for a function of an obfuscated, listed package that is not exempt -/
theorem decideObj_funcObj (env : Env) (P : Pkg) (name : Bytes) (cls : NameClass) (ts : Bool)
    (hl : env.lookup P.path = .found P) (ho : P.toObfuscate = true) (hs : specialKeep P.path name = false)
    (hi : env.intrinsic P.path name = false) (hx : ¬ FuncExempt name ts) :
    decideObj env (funcObj P name cls ts) = pkgHash env P name cls := by
  rw [decideObj_obfuscated (o := funcObj P name cls ts) rfl hs hl ho]
  simp only [FuncExempt, not_or, not_and, Bool.not_eq_true, ← Bool.and_eq_false_imp] at hx
  simp [funcObj, hi, hx]

theorem decideObj_varObj (env : Env) (P : Pkg) (name : Bytes) (cls : NameClass)
    (hl : env.lookup P.path = .found P) (ho : P.toObfuscate = true) (hs : specialKeep P.path name = false) :
    decideObj env (varObj P name cls) = pkgHash env P name cls :=
  decideObj_obfuscated (o := varObj P name cls) rfl hs hl ho

theorem decideObj_typeObj (env : Env) (P : Pkg) (name : Bytes) (cls : NameClass)
    (hl : env.lookup P.path = .found P) (ho : P.toObfuscate = true) (hs : specialKeep P.path name = false) :
    decideObj env (typeObj P name cls) = pkgHash env P name cls :=
  decideObj_obfuscated (o := typeObj P name cls) rfl hs hl ho

theorem decideObj_methodObj (env : Env) (P : Pkg) (name : Bytes) (cls : NameClass)
    (hl : env.lookup P.path = .found P) (ho : P.toObfuscate = true) (hs : specialKeep P.path name = false)
    (hi : env.intrinsic P.path name = false) (hc : cls ≠ .exported)
    (hm : name ≠ str "main" ∧ name ≠ str "init" ∧ name ≠ str "TestMain") :
    decideObj env (methodObj P name cls) = pkgHash env P name cls := by
  rw [decideObj_obfuscated (o := methodObj P name cls) rfl hs hl ho]
  simp [methodObj, hi, hc, hm]

/-- **//go:linkname to a function agrees with the declaration's name**: if the target `pkg.f` resolves to the listed,
obfuscated package `P` and `f` is neither an intrinsic nor one of the names only the Go-source path exempts, the
rewritten directive names exactly `obfImportPath P . (name given to f's declaration)`. -/
theorem linkname_func_agrees (env : Env) (clsOf : Bytes → NameClass) (P : Pkg) (newName f : Bytes) (ts : Bool) (n : Bytes)
    (hdot : newName.contains 46 = true)
    (hsp : isSpecialLinkname newName = false)
    (hres : ∃ t, resolveTarget env (dotSplits newName) = t ∧ t = .resolved P f)
    (hnodot : cutDot f = none)
    (hl : env.lookup P.path = .found P) (ho : P.toObfuscate = true) (hs : specialKeep P.path f = false)
    (hi : env.intrinsic P.path f = false) (hx : ¬ FuncExempt f ts)
    (hd : decideObj env (funcObj P f (clsOf f) ts) = .rename n) :
    linknameTarget env clsOf newName = (obfImportPath env.cfg P).map (fun ip => ip ++ [46] ++ n) := by
  obtain ⟨_, ht, rfl⟩ := hres
  have hh : hashWithPackage env.cfg P.path P.gaid f (clsOf f) = some n :=
    hash_of_rename (o := funcObj P f (clsOf f) ts) rfl hl nofun hd
  simp only [linknameTarget, hdot, hsp, ht, ho, hi, hnodot, hh]
  cases obfImportPath env.cfg P <;> rfl

/-- **//go:linkname to a method** `pkg.T.m` / `pkg.(*T).m`: the receiver type and the method name get the names of
their declarations (exported methods stay, unexported ones are hashed with the package).  The receiver is written `T`, or `(*T)` when `ptr`. -/
theorem linkname_method_agrees (env : Env) (clsOf : Bytes → NameClass) (P : Pkg) (newName foreign T m nT nM : Bytes) (ptr : Bool)
    (hdot : newName.contains 46 = true) (hsp : isSpecialLinkname newName = false)
    (hres : resolveTarget env (dotSplits newName) = .resolved P foreign)
    (hcut : cutDot foreign = some (if ptr then 40 :: 42 :: (T ++ [41]) else T, m))
    (hT : hasPrefix [40, 42] T = false)
    (hl : env.lookup P.path = .found P) (ho : P.toObfuscate = true)
    (hsT : specialKeep P.path T = false) (hsM : specialKeep P.path m = false)
    (hi : env.intrinsic P.path foreign = false) (hiM : env.intrinsic P.path m = false)
    (hm : m ≠ str "main" ∧ m ≠ str "init" ∧ m ≠ str "TestMain")
    (hdT : decideObj env (typeObj P T (clsOf T)) = .rename nT)
    (hdM : decideObj env (methodObj P m (clsOf m)) = if clsOf m = .exported then .keep else .rename nM) :
    linknameTarget env clsOf newName =
      (obfImportPath env.cfg P).map (fun ip => ip ++ [46] ++
        ((if ptr then [40, 42] ++ nT ++ [41] else nT) ++ [46] ++ (if clsOf m = .exported then m else nM))) := by
  have hhT : hashWithPackage env.cfg P.path P.gaid T (clsOf T) = some nT :=
    hash_of_rename (o := typeObj P T (clsOf T)) rfl hl nofun hdT
  have hname : (if clsOf m == .exported then some m else hashWithPackage env.cfg P.path P.gaid m (clsOf m)) =
      some (if clsOf m = .exported then m else nM) := by
    by_cases hex : clsOf m = .exported
    · simp [hex]
    · simp only [beq_iff_eq, hex, if_false]
      exact hash_of_rename (o := methodObj P m (clsOf m)) rfl hl nofun (hdM.trans (if_neg hex))
  simp only [linknameTarget, hdot, hsp, hres, ho, hi, hcut, recvRewrite_recv _ T ptr hT, hhT, hname]
  cases obfImportPath env.cfg P <;> rfl

/-- **assembly symbols agree**: a reference `pkg·f` / `·f` to a function of `P` is renamed like f's declaration -/
theorem asm_func_agrees (env : Env) (P : Pkg) (f : Bytes) (cls : NameClass) (ts : Bool)
    (hl : env.lookup P.path = .found P) (ho : P.toObfuscate = true) (hs : specialKeep P.path f = false)
    (hx : ¬ FuncExempt f ts) :
    (match asmSymbolName env P f cls with | some n => (if env.intrinsic P.path f then Decision.keep else .rename n) | none => .panic) =
      decideObj env (funcObj P f cls ts) := by
  cases hi : env.intrinsic P.path f with
  | true =>
    rw [decideObj_obfuscated (o := funcObj P f cls ts) rfl hs hl ho]
    simp [asmSymbolName, funcObj, hi]
  | false =>
    rw [decideObj_funcObj env P f cls ts hl ho hs hi hx, asmSymbolName_hashed ho hi, pkgHash]
    cases hashWithPackage env.cfg P.path P.gaid f cls <;> rfl

/-- … and to a package-level variable -/
theorem asm_var_agrees (env : Env) (P : Pkg) (v : Bytes) (cls : NameClass)
    (hl : env.lookup P.path = .found P) (ho : P.toObfuscate = true) (hs : specialKeep P.path v = false)
    (hi : env.intrinsic P.path v = false) :
    (match asmSymbolName env P v cls with | some n => Decision.rename n | none => .panic) = decideObj env (varObj P v cls) := by
  rw [decideObj_varObj env P v cls hl ho hs, asmSymbolName_hashed ho hi, pkgHash]
  cases hashWithPackage env.cfg P.path P.gaid v cls <;> rfl

/-- **go_asm.h offset names agree**: for a non-embedded field the recorded replacement is the field's own new name … -/
theorem goasm_field_agrees (env : Env) (P : Pkg) (f : Bytes) (cls : NameClass) (h : Nat)
    (hl : env.lookup P.path = .found P) (ho : P.toObfuscate = true) (hs : specialKeep P.path f = false) :
    goAsmFieldName env h f cls false none = decideObj env (fieldObj P f cls h) := by
  rw [decideObj_obfuscated (o := fieldObj P f cls h) rfl hs hl ho]
  rfl

/-- … and for an embedded field it is the name given to the embedded TYPE, which is what `transformGoFile` writes for
the field (it replaces the embedded field object by its type name before deciding).  Before the `fix:` commit for
go_asm.h this case used the field hash and assembly using `Outer_Inner` offsets failed to assemble. -/
theorem goasm_embedded_agrees (env : Env) (h : Nat) (f : Bytes) (cls : NameClass) (d : Decision) (n : Bytes)
    (hd : d = .rename n) : goAsmFieldName env h f cls true (some d) = d := by
  subst hd
  rfl

/-- **an embedded field follows its type**: every caller of the decision (the compile step, `garble map`, the
go_asm.h table) names an embedded field exactly like the type it embeds — by construction since the decision point
itself does the substitution (before the corresponding `fix:` commit `garble map` reported a struct-salted name) -/
theorem embedded_field_follows_type (env : Env) (o : Obj) (T : Bytes) (cls : NameClass) (P : Pkg) :
    decideIdent env o (.named T cls (some P.path)) = decideObj env (typeObj P T cls) := rfl

/-- **-ldflags=-X agrees**: the duplicated flag names the variable's new import path and new name -/
theorem ldflagsX_agrees (env : Env) (P : Pkg) (v : Bytes) (cls : NameClass) (n : Bytes)
    (hl : env.lookup P.path = .found P) (ho : P.toObfuscate = true) (hs : specialKeep P.path v = false)
    (hd : decideObj env (varObj P v cls) = .rename n) :
    ldflagsX env P v cls = (obfImportPath env.cfg P).map (fun ip => ip ++ [46] ++ n) := by
  have hh : hashWithPackage env.cfg P.path P.gaid v cls = some n :=
    hash_of_rename (o := varObj P v cls) rfl hl nofun hd
  simp only [ldflagsX, hh]
  cases obfImportPath env.cfg P <;> rfl

/-- the hypotheses forced on the linkname/asm theorems are genuinely needed: for a function named `init` the Go
source keeps the name while the directive/assembly logic hashes it (the excluded point; see DESIGN.md) -/
theorem exempt_names_disagree (env : Env) (P : Pkg) (cls : NameClass)
    (hl : env.lookup P.path = .found P) (ho : P.toObfuscate = true) (hi : env.intrinsic P.path (str "init") = false) :
    decideObj env (funcObj P (str "init") cls false) = .keep ∧
      asmSymbolName env P (str "init") cls = hashWithPackage env.cfg P.path P.gaid (str "init") cls := by
  have hs : specialKeep P.path (str "init") = false := specialKeep_of_name (by decide +kernel)
  refine ⟨?_, asmSymbolName_hashed ho hi⟩
  rw [decideObj_obfuscated (o := funcObj P (str "init") cls false) rfl hs hl ho]
  simp [funcObj, hi]

end GV.Props.C01
