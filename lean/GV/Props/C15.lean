import GV.Model.Types
import GV.Model.Salt
/-
C15 — Identical struct types get identical field names everywhere.

For ALL struct types (any number of fields, any nesting, any field types including type parameters, aliases and
instantiations): Go-identity (ignoring tags) implies the same struct identity hash, hence the same salt, hence the
same obfuscated name for corresponding fields — in whichever package the struct is declared or used, because the
salt does not mention a package.
-/
namespace GV.Props.C15
open GV.Types

theorem hashFrom_of_skeleton : ∀ (fs fs' : FieldList) (i : Nat) (h : UInt32),
    skeleton fs = skeleton fs' → structHashFrom i fs h = structHashFrom i fs' h
  | .nil, .nil, _, _, _ => rfl
  | .nil, .cons .., _, _, hs => by simp [skeleton] at hs
  | .cons .., .nil, _, _, hs => by simp [skeleton] at hs
  | .cons n e p x g t r, .cons n' e' p' x' g' t' r', i, h, hs => by
    simp only [skeleton, List.cons.injEq, Prod.mk.injEq] at hs
    obtain ⟨⟨hn, he⟩, hr⟩ := hs
    subst hn; subst he
    exact hashFrom_of_skeleton r r' _ _ hr

/-- the salt is a function of the (name, embedded) sequence only -/
theorem salt_of_skeleton {fs fs' : FieldList} (h : skeleton fs = skeleton fs') : structSalt fs = structSalt fs' :=
  hashFrom_of_skeleton fs fs' 0 9059 h

theorem identical_skeleton (tags : Bool) : ∀ (fs fs' : FieldList),
    identicalFields tags fs fs' = true → skeleton fs = skeleton fs'
  | .nil, .nil, _ => rfl
  | .nil, .cons .., h => by simp [identicalFields] at h
  | .cons .., .nil, h => by simp [identicalFields] at h
  | .cons n e p x g t r, .cons n' e' p' x' g' t' r', h => by
    simp only [identicalFields, Bool.and_eq_true, beq_iff_eq] at h
    obtain ⟨⟨⟨⟨⟨⟨hn, he⟩, _⟩, _⟩, _⟩, _⟩, hr⟩ := h
    simp [skeleton, hn, he, identical_skeleton tags r r' hr]

/-- **identical ⇒ same salt** (alias-free form) -/
theorem identical_same_salt (tags : Bool) (fs fs' : FieldList)
    (h : identical tags (.struct fs) (.struct fs') = true) : structSalt fs = structSalt fs' := by
  exact salt_of_skeleton (identical_skeleton tags fs fs' h)

theorem unalias_skeleton : ∀ fs : FieldList, skeleton (unaliasFields fs) = skeleton fs
  | .nil => rfl
  | .cons n e p x g t r => by simp [unaliasFields, skeleton, unalias_skeleton r]

/-- **identical under Go's relation (aliases transparent, tags ignored) ⇒ same salt**, for any two struct types,
wherever they are declared -/
theorem goIdentical_same_salt (fs fs' : FieldList)
    (h : goIdentical false (.struct fs) (.struct fs') = true) : structSalt fs = structSalt fs' := by
  unfold goIdentical at h
  have := identical_same_salt false _ _ h
  rwa [salt_of_skeleton (unalias_skeleton fs), salt_of_skeleton (unalias_skeleton fs')] at this

theorem subst_skeleton (σ : Nat → Ty) : ∀ fs : FieldList, skeleton (substFields σ fs) = skeleton fs
  | .nil => rfl
  | .cons n e p x g t r => by simp [substFields, skeleton, subst_skeleton σ r]

/-- **instantiation-stable**: instantiating type parameters (any arguments) does not change the salt, so a generic
struct, each of its instantiations, and an anonymous struct returned by a generic function all agree -/
theorem instantiation_same_salt (σ : Nat → Ty) (fs : FieldList) : structSalt (substFields σ fs) = structSalt fs :=
  salt_of_skeleton (subst_skeleton σ fs)

/-- tags never matter -/
theorem tags_ignored (n : Bytes) (e : Bool) (p : Bytes) (x : Bool) (g g' : Bytes) (t : Ty) (r : FieldList) :
    structSalt (.cons n e p x g t r) = structSalt (.cons n e p x g' t r) := rfl

/-- **field names agree**: the obfuscated name of a field is determined by (garble configuration, struct salt, field
name); identical structs therefore give corresponding fields the same obfuscated name, whichever package asks -/
theorem field_name_agrees (c : GV.Salt.Cfg) (fs fs' : FieldList) (name : Bytes) (cls : GV.NameHash.NameClass)
    (h : goIdentical false (.struct fs) (.struct fs') = true) :
    (GV.Salt.structSaltBytes c (structSalt fs).toNat).bind (fun s => GV.Salt.hashWithCustomSalt c s name cls) =
    (GV.Salt.structSaltBytes c (structSalt fs').toNat).bind (fun s => GV.Salt.hashWithCustomSalt c s name cls) := by
  rw [goIdentical_same_salt fs fs' h]

/-- non-vacuity: two structs declared in different packages with different tags, one behind an alias, are identical -/
example : goIdentical false
    (.struct (.cons [70] false [97] true [1] (.basic 2) (.cons [71] true [97] true [] (.alias [65] (.named [98] [84] .nil)) .nil)))
    (.struct (.cons [70] false [99] true [2] (.basic 2) (.cons [71] true [99] true [] (.named [98] [84] .nil) .nil))) = true := by decide

end GV.Props.C15
