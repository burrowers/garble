import GV.Proofs.Naming
/-
C13 — garble map, the build and garble reverse agree on every name.

`garble map` and the compile step call the SAME function (`obfuscatedObjectName`, modelled by `decideObj`), so
"map = build" is true by construction of the model; the content of that clause is carried by the tie (real
`garble map` output vs. the identifiers of the real build's garbled source).  `garble reverse` builds its table with
a THIRD piece of code (reverse.go:54-126), modelled here as `reversePairs`.
-/
namespace GV.Props.C13
open GV.Naming GV.Salt GV.NameHash

/-- what `commandMap` lists for a package: every object whose decision is a rename -/
def mapEntries (env : Env) (objs : List (Bytes × Obj)) : List (Bytes × Bytes) :=
  objs.filterMap fun (key, o) => match decideObj env o with
    | .rename n => some (key, n)
    | _ => none

theorem mem_mapEntries {env : Env} {objs : List (Bytes × Obj)} {key n : Bytes} :
    (key, n) ∈ mapEntries env objs ↔ ∃ o, (key, o) ∈ objs ∧ decideObj env o = .rename n := by
  unfold mapEntries
  rw [List.mem_filterMap]
  constructor
  · rintro ⟨⟨k, o⟩, hm, hd⟩
    simp only at hd
    split at hd
    next n' hn' =>
      cases hd
      exact ⟨o, hm, hn'⟩
    next => cases hd
  · rintro ⟨o, hm, hd⟩
    exact ⟨(key, o), hm, by simp only [hd]⟩

/-- **map = build** (by construction): an entry of `garble map` is exactly the decision the compile step takes -/
theorem map_eq_build (env : Env) (objs : List (Bytes × Obj)) (key n : Bytes) (h : (key, n) ∈ mapEntries env objs) :
    ∃ o, (key, o) ∈ objs ∧ decideObj env o = .rename n :=
  mem_mapEntries.mp h

theorem map_lists_every_renamed (env : Env) (objs : List (Bytes × Obj)) (key n : Bytes) (o : Obj)
    (hm : (key, o) ∈ objs) (hd : decideObj env o = .rename n) : (key, n) ∈ mapEntries env objs :=
  mem_mapEntries.mpr ⟨o, hm, hd⟩

/-- the name pairs `garble reverse` collects for one package (obfuscated, original): its import path, every FuncDecl
name, every TypeSpec name (all hashed with the package, unconditionally) and every struct field (hashed with its
struct), and — since the `fix:` commit for reverse — every package-level variable. -/
def reversePairs (env : Env) (p : Pkg) (funcDecls typeSpecs : List (Bytes × NameClass)) (fields : List (Bytes × NameClass × Nat))
    (vars : List (Bytes × NameClass) := []) :
    List (Option Bytes × Bytes) :=
  vars.map (fun (n, c) => (hashWithPackage env.cfg p.path p.gaid n c, n)) ++
  [(hashWithPackage env.cfg p.path p.gaid p.path p.pathCls, p.path)] ++
  funcDecls.map (fun (n, c) => (hashWithPackage env.cfg p.path p.gaid n c, n)) ++
  typeSpecs.map (fun (n, c) => (hashWithPackage env.cfg p.path p.gaid n c, n)) ++
  fields.map (fun (n, c, h) => ((structSaltBytes env.cfg h).bind (fun s => hashWithCustomSalt env.cfg s n c), n))

/-- **reverse inverts map**: whatever the build renames to `n`, of the names declared in the package, has the pair
(n, original) in the reverse table -/
theorem reverse_has_renamed {env : Env} {p : Pkg} {fd ts vs : List (Bytes × NameClass)} {fs : List (Bytes × NameClass × Nat)}
    {o : Obj} {n : Bytes} (hp : o.pkgPath = some p.path) (hl : env.lookup p.path = .found p)
    (hd : decideObj env o = .rename n)
    (hm : o.kind ≠ .field ∧ ((o.name, o.cls) ∈ vs ∨ (o.name, o.cls) ∈ fd ∨ (o.name, o.cls) ∈ ts) ∨
      o.kind = .field ∧ ∃ h, o.structHash = some h ∧ (o.name, o.cls, h) ∈ fs) :
    (some n, o.name) ∈ reversePairs env p fd ts fs vs := by
  unfold reversePairs
  simp only [List.mem_append, List.mem_map]
  rcases hm with ⟨hk, hm⟩ | ⟨hk, h, hh, hm⟩
  · rw [← hash_of_rename hp hl hk hd]
    rcases hm with hm | hm | hm
    · exact .inl (.inl (.inl (.inl ⟨_, hm, rfl⟩)))
    · exact .inl (.inl (.inr ⟨_, hm, rfl⟩))
    · exact .inl (.inr ⟨_, hm, rfl⟩)
  · rw [← fieldHash_of_rename hp hl hk hh hd]
    exact .inr ⟨_, hm, rfl⟩

/-- **reverse inverts map, for functions, methods and types**: a declared function or type that the build renames
to `n` has the pair (n, original) in the reverse table -/
theorem reverse_has_func (env : Env) (p : Pkg) (fd ts vs : List (Bytes × NameClass)) (fs : List (Bytes × NameClass × Nat))
    (name : Bytes) (cls : NameClass) (o : Obj) (n : Bytes)
    (ho : o.kind = .func ∨ o.kind = .typeName) (hn : o.name = name) (hc : o.cls = cls) (hp : o.pkgPath = some p.path)
    (hl : env.lookup p.path = .found p) (hmem : (name, cls) ∈ fd ∨ (name, cls) ∈ ts)
    (hd : decideObj env o = .rename n) :
    (some n, name) ∈ reversePairs env p fd ts fs vs := by
  subst hn hc
  have hk : o.kind ≠ .field := by rcases ho with h | h <;> simp [h]
  exact reverse_has_renamed hp hl hd (.inl ⟨hk, .inr hmem⟩)

/-- … and for struct fields -/
theorem reverse_has_field (env : Env) (p : Pkg) (fd ts vs : List (Bytes × NameClass)) (fs : List (Bytes × NameClass × Nat))
    (name : Bytes) (cls : NameClass) (h : Nat) (o : Obj) (n : Bytes)
    (ho : o.kind = .field) (hn : o.name = name) (hc : o.cls = cls) (hp : o.pkgPath = some p.path) (hs : o.structHash = some h)
    (hl : env.lookup p.path = .found p) (hmem : (name, cls, h) ∈ fs)
    (hd : decideObj env o = .rename n) :
    (some n, name) ∈ reversePairs env p fd ts fs vs := by
  subst hn hc
  exact reverse_has_renamed hp hl hd (.inr ⟨ho, h, hs, hmem⟩)

/-- the import path pair is always there -/
theorem reverse_has_import_path (env : Env) (p : Pkg) (fd ts vs : List (Bytes × NameClass)) (fs : List (Bytes × NameClass × Nat)) :
    (hashWithPackage env.cfg p.path p.gaid p.path p.pathCls, p.path) ∈ reversePairs env p fd ts fs vs := by
  unfold reversePairs
  simp only [List.mem_append, List.mem_singleton, true_or, or_true]

/-- … and for package-level variables -/
theorem reverse_has_var (env : Env) (p : Pkg) (fd ts vs : List (Bytes × NameClass)) (fs : List (Bytes × NameClass × Nat))
    (name : Bytes) (cls : NameClass) (o : Obj) (n : Bytes)
    (ho : o.kind = .var) (hn : o.name = name) (hc : o.cls = cls) (hp : o.pkgPath = some p.path)
    (hl : env.lookup p.path = .found p) (hmem : (name, cls) ∈ vs)
    (hd : decideObj env o = .rename n) :
    (some n, name) ∈ reversePairs env p fd ts fs vs := by
  subst hn hc
  exact reverse_has_renamed hp hl hd (.inl ⟨by simp [ho], .inl hmem⟩)

end GV.Props.C13
