import GV.Model.Ctrlflow
import GV.Proofs.ListLemmas
/-
C11 — Control-flow obfuscation preserves function behaviour.

PARTIAL: the conversion of forty SSA instruction kinds back to Go source (ssa2ast) is not modelled; it is exercised by
the differential check (gvlib/c11.py), which is also where the two open findings live.  Proved here, for all inputs:

* trash blocks are never entered: `always_false_nonempty`, `always_false_is_false`;
* the flattening dispatcher routes every stored key to its own block and the initial value 0 to the real entry:
  `flatten_keys_ok`, `dispatch_hits`, `dispatch_entry`;
* `generateKeys` returns distinct, non-zero, non-blacklisted keys for every random stream: `generateKeys_ok`;
* under both hardenings the emitted store expression evaluates to the emitted compare literal, and the compare
  literals stay pairwise distinct and non-zero: `xor_*`, `delegate_*`;
* phi lowering: a tuple assignment is exactly the SSA semantics (`tuple_is_parallel`); the sequential lowering garble
  used before fix is NOT (`sequential_is_wrong`, the `a, b = b, a` witness) and is right only without interference:
  when no later phi reads an earlier phi's target (`sequential_ok_of_pairwise`, `sequential_ok_partial`);
* inserting a do-nothing block on an edge (junk jump; trash dispatch with its always-false condition) changes no
  execution between original blocks, in either direction: `insertEdge_forward`, `insertEdge_backward`;
* **one flattening pass** over an abstract CFG (any blocks, any state, any set of redirected edges, any distinct
  non-zero keys): the dispatcher built as control flow (jump blocks, entry, if-chain) computes `dispatch`
  (`dispatcher_some`, `dispatcher_none`), so it routes every redirected edge to its target and the initial 0 to the
  real entry (`dispatcher_routes`, `dispatcher_entry`), hence every execution of the original function is an execution
  of the flattened one with the same function state (`flatten_forward`) and every result it returns is returned
  (`flatten_returns`).  The real `applyFlattening` is checked on every run to
  produce exactly this structure (gvlib/c11.py `flatten_structure`).
-/
namespace GV.Props.C11
open GV.Ctrlflow

theorem always_false_nonempty (v1 v2 : Int) : falseCandidates v1 v2 ≠ [] := by
  have key : ∀ t ∈ allCmps, t.eval v1 v2 = false → falseCandidates v1 v2 ≠ [] := fun t ht h =>
    List.ne_nil_of_mem (List.mem_filter.mpr ⟨ht, by simp [h]⟩)
  -- of `==` and `!=` one is false
  by_cases h : v1 = v2
  · exact key .neq (by decide) (by simp [Cmp.eval, h])
  · exact key .eql (by decide) (by simp [Cmp.eval, h])

theorem always_false_is_false (v1 v2 : Int) (draw : Nat) (t : Cmp) (h : pickCmp v1 v2 draw = some t) :
    t.eval v1 v2 = false := by
  have hm : t ∈ falseCandidates v1 v2 := List.mem_of_getElem? h
  simpa using (List.mem_filter.mp hm).2

/-- every draw below the number of candidates picks one (the code draws `Intn(len(candidates))`) -/
theorem always_false_total (v1 v2 : Int) (draw : Nat) (h : draw < (falseCandidates v1 v2).length) :
    ∃ t, pickCmp v1 v2 draw = some t :=
  ⟨_, List.getElem?_eq_getElem h⟩

theorem flatten_keys_ok (perm : List Nat) (h : perm.Nodup) : (flattenKeys perm).Nodup ∧ 0 ∉ flattenKeys perm := by
  unfold flattenKeys
  constructor
  · rw [List.nodup_iff_pairwise_ne, List.pairwise_map]
    exact h.imp fun hab e => hab (Nat.add_right_cancel e)
  · simp

theorem dispatch_eq_findIdx? (keys : List Nat) (v : Nat) : dispatch keys v = keys.findIdx? (· == v) := by
  unfold dispatch
  cases keys.findIdx? (· == v) <;> rfl

theorem dispatch_eq_some_iff {keys : List Nat} {v i : Nat} :
    dispatch keys v = some i ↔
      ∃ h : i < keys.length, keys[i] = v ∧ ∀ l (hl : l < i), keys[l]'(Nat.lt_trans hl h) ≠ v := by
  simp only [dispatch_eq_findIdx?, List.findIdx?_eq_some_iff_getElem, beq_iff_eq]

theorem dispatch_eq_none_iff {keys : List Nat} {v : Nat} : dispatch keys v = none ↔ v ∉ keys := by
  simp only [dispatch_eq_findIdx?, List.findIdx?_eq_none_iff, beq_eq_false_iff_ne]
  exact ⟨fun h e => h v e rfl, fun h x hx e => h (e ▸ hx)⟩

/-- a block that stored `keys[i]` in the dispatcher variable is followed by target `i` -/
theorem dispatch_hits (keys : List Nat) (nd : keys.Nodup) (i : Nat) (hi : i < keys.length) :
    dispatch keys keys[i] = some i :=
  dispatch_eq_some_iff.mpr ⟨hi, rfl, fun _ hl e => Nat.ne_of_lt hl ((List.getElem_inj nd).mp e)⟩

/-- on function entry the dispatcher variable is 0 and the chain falls through to the real entry block -/
theorem dispatch_entry (keys : List Nat) (h0 : 0 ∉ keys) : dispatch keys 0 = none :=
  dispatch_eq_none_iff.mpr h0

theorem generateKeys_inv (count : Nat) (black draws acc : List Nat) (res : List Nat)
    (hacc : acc.Nodup ∧ 0 ∉ acc ∧ ∀ x ∈ acc, x ∉ black)
    (h : generateKeys count black draws acc = some res) :
    res.Nodup ∧ 0 ∉ res ∧ (∀ x ∈ res, x ∉ black) ∧ res.length = acc.length + count := by
  fun_induction generateKeys count black draws acc with
  | case1 black draws acc =>
    cases h
    exact ⟨(List.reverse_perm acc).nodup_iff.mpr hacc.1, mt List.mem_reverse.mp hacc.2.1,
      fun x hx => hacc.2.2 x (List.mem_reverse.mp hx), List.length_reverse⟩
  | case2 c black acc => cases h
  | case3 c black d ds acc hskip ih => exact ih hacc h
  | case4 c black d ds acc hkeep ih =>
    -- the draw `d` is kept: it is not 0, not blacklisted and not among the keys so far
    simp only [Bool.or_eq_true, beq_iff_eq, List.contains_eq_mem, decide_eq_true_eq, not_or] at hkeep
    obtain ⟨⟨hd0, hdb⟩, hda⟩ := hkeep
    have hacc' : (d :: acc).Nodup ∧ 0 ∉ d :: acc ∧ ∀ x ∈ d :: acc, x ∉ black := by
      refine ⟨List.nodup_cons.mpr ⟨hda, hacc.1⟩, fun h0 => ?_, List.forall_mem_cons.mpr ⟨hdb, hacc.2.2⟩⟩
      exact (List.mem_cons.mp h0).elim (fun e => hd0 e.symm) hacc.2.1
    obtain ⟨h1, h2, h3, hl⟩ := ih hacc' h
    rw [List.length_cons] at hl
    exact ⟨h1, h2, h3, by omega⟩

/-- for EVERY random stream: the keys are pairwise distinct, non-zero, not blacklisted, and there are `count` of them -/
theorem generateKeys_ok (count : Nat) (black draws : List Nat) (res : List Nat)
    (h : generateKeys count black draws [] = some res) :
    res.Nodup ∧ 0 ∉ res ∧ (∀ x ∈ res, x ∉ black) ∧ res.length = count := by
  simpa using generateKeys_inv count black draws [] res
    ⟨List.nodup_nil, List.not_mem_nil, fun _ h => absurd h List.not_mem_nil⟩ h

theorem xor_left_inj {g a b : Nat} (e : a ^^^ g = b ^^^ g) : a = b := by
  rw [← Nat.xor_cancel_right a g, e, Nat.xor_cancel_right]

/-- xor hardening: the emitted store expression evaluates to the emitted compare literal -/
theorem xor_store_eq_compare (h : XorH) (i : Nat) : h.store i = h.compare i :=
  Nat.xor_comm _ _

/-- ... the compare literals are non-zero (so the initial 0 still reaches the real entry) because the global key is
blacklisted, and pairwise distinct because the keys are -/
theorem xor_compare_ok (h : XorH) (nd : h.ks.Nodup) (hb : h.globalKey ∉ h.ks) (i j : Nat) (hi : i < h.ks.length) (hj : j < h.ks.length) :
    h.compare i ≠ 0 ∧ (h.compare i = h.compare j → i = j) := by
  refine ⟨fun e => hb ?_, fun e => (List.getElem!_inj hi hj nd).mp (xor_left_inj e)⟩
  -- `k ^^^ g = 0 = g ^^^ g` makes the key `k` the global key
  rw [← xor_left_inj (e.trans (Nat.xor_self _).symm), getElem!_pos h.ks i hi]
  exact List.getElem_mem hi

/-- delegate-table hardening: the delegate call decrypts to the compare literal, whatever key bytes, indexes and
local keys were drawn -/
theorem delegate_store_eq_compare (h : DelegateH) (i : Nat) : h.store i = h.compare i :=
  Nat.xor_cancel_right _ _

theorem delegate_compare_ok (h : DelegateH) (nd : h.ks.Nodup) (h0 : 0 ∉ h.ks) (i j : Nat) (hi : i < h.ks.length) (hj : j < h.ks.length) :
    h.compare i ≠ 0 ∧ (h.compare i = h.compare j → i = j) := by
  unfold DelegateH.compare
  refine ⟨fun e => h0 ?_, (List.getElem!_inj hi hj nd).mp⟩
  rw [← e, getElem!_pos h.ks i hi]
  exact List.getElem_mem hi

theorem foldl_set_not_mem {vals : List (Var × Int)} {env : Env} {w : Var} (h : ∀ p ∈ vals, p.1 ≠ w) :
    (vals.foldl (fun e p => e.set p.1 p.2) env) w = env w := by
  induction vals generalizing env with
  | nil => rfl
  | cons p t ih =>
    rw [List.foldl_cons, ih fun q hq => h q (List.mem_cons_of_mem _ hq)]
    exact if_neg (Ne.symm (h p (List.mem_cons_self ..)))

/-- assignments to distinct variables, carried out one after the other, amount to a lookup -/
theorem foldl_set_nodup (vals : List (Var × Int)) (nd : (vals.map (·.1)).Nodup) (env : Env) (w : Var) :
    (vals.foldl (fun e p => e.set p.1 p.2) env) w = match vals.find? (·.1 == w) with
      | some p => p.2
      | none => env w := by
  induction vals generalizing env with
  | nil => rfl
  | cons p t ih =>
    rw [List.map_cons, List.nodup_cons] at nd
    rw [List.foldl_cons, List.find?_cons]
    by_cases hp : p.1 = w
    · -- no later assignment writes `w` again
      rw [beq_iff_eq.mpr hp, foldl_set_not_mem fun q hq e => nd.1 (List.mem_map.mpr ⟨q, hq, e.trans hp.symm⟩)]
      exact if_pos hp.symm
    · rw [beq_eq_false_iff_ne.mpr hp, ih nd.2]
      cases t.find? (·.1 == w) with
      | some q => rfl
      | none => exact if_neg (Ne.symm hp)

/-- **the lowering used since the fix**: one tuple assignment per predecessor block is exactly the SSA semantics of
the phi nodes, for every set of phi nodes (distinct targets), every operand and every environment -/
theorem tuple_is_parallel (ps : List (Var × Operand)) (nd : (ps.map (·.1)).Nodup) (env : Env) :
    tupleAssign ps env = phiParallel ps env := by
  funext w
  unfold tupleAssign phiParallel
  rw [foldl_set_nodup _ (by rwa [List.map_map]), List.find?_map]
  simp only [Function.comp_def]
  cases ps.find? (·.1 == w) <;> rfl

/-- the sequential lowering is wrong: `a, b = b, a` (phi nodes of a loop header that swap two variables) -/
theorem sequential_is_wrong : ∃ (ps : List (Var × Operand)) (env : Env),
    (ps.map (·.1)).Nodup ∧ phiSequential ps env ≠ phiParallel ps env := by
  refine ⟨[(0, .var 1), (1, .var 0)], (fun v => if v = 0 then 1 else 2), by decide, fun e => ?_⟩
  -- `b` gets the new `a`, which is its own old value 2, where the phi node reads the old `a`, 1
  exact absurd (congrFun e 1) (by decide)

theorem Operand.eval_set {o : Operand} {v : Var} (h : o ≠ .var v) (e : Env) (x : Int) :
    o.eval (e.set v x) = o.eval e := by
  cases o with
  | const c => rfl
  | var u => exact if_neg fun eu : u = v => h (eu ▸ rfl)

/-- the sequential lowering is right when no later phi reads an earlier phi's target -/
theorem sequential_ok_of_pairwise (ps : List (Var × Operand)) (nd : (ps.map (·.1)).Nodup) (env : Env)
    (indep : ps.Pairwise fun p q => q.2 ≠ .var p.1) :
    phiSequential ps env = phiParallel ps env := by
  rw [← tuple_is_parallel ps nd]
  unfold phiSequential tupleAssign
  clear nd
  -- the two folds agree from every running environment `e` that gives the operands still to come their initial values
  suffices key : ∀ e : Env, (∀ q ∈ ps, q.2.eval e = q.2.eval env) →
      ps.foldl (fun e p => e.set p.1 (p.2.eval e)) e =
        (ps.map fun p => (p.1, p.2.eval env)).foldl (fun e p => e.set p.1 p.2) e from
    key env fun _ _ => rfl
  induction ps with
  | nil => exact fun _ _ => rfl
  | cons p t ih =>
    intro e he
    rw [List.pairwise_cons] at indep
    rw [List.foldl_cons, List.map_cons, List.foldl_cons, he p (List.mem_cons_self ..)]
    refine ih indep.2 _ fun q hq => ?_
    rw [Operand.eval_set (indep.1 q hq), he q (List.mem_cons_of_mem _ hq)]

/-- in particular when no phi reads the target of any phi -/
theorem sequential_ok_partial (ps : List (Var × Operand)) (nd : (ps.map (·.1)).Nodup) (env : Env)
    (indep : ∀ p ∈ ps, ∀ q ∈ ps, q.2 ≠ .var p.1) :
    phiSequential ps env = phiParallel ps env :=
  sequential_ok_of_pairwise ps nd env (List.pairwise_of_forall_mem_list indep)

variable {σ : Type}

theorem _root_.GV.Ctrlflow.Steps.trans {P : Prog σ} {a b c : Nat} {s t u : σ} (h1 : Steps P a s b t) (h2 : Steps P b t c u) :
    Steps P a s c u := by
  induction h1 with
  | refl => exact h2
  | step hn _ ih => exact .step hn (ih h2)

/-- a first step whose effect on the state is known -/
theorem _root_.GV.Ctrlflow.Steps.head {P : Prog σ} {n m k : Nat} {s s' t : σ} (he : P.exec n s = s')
    (hn : P.next n s' = some m) (h : Steps P m s' k t) : Steps P n s k t := by
  subst he
  exact .step hn h

/-- a property of blocks that every edge preserves holds where a run ends -/
theorem _root_.GV.Ctrlflow.Steps.inv {P : Prog σ} {I : Nat → Prop} (hI : ∀ n s m, I n → P.next n s = some m → I m)
    {n k : Nat} {s t : σ} (h : Steps P n s k t) (hn : I n) : I k := by
  induction h with
  | refl => exact hn
  | step hnext _ ih => exact ih (hI _ _ _ hn hnext)

section
variable {P : Prog σ} {b tgt j n : Nat} {s : σ}

theorem ie_exec_j : (insertEdge P b tgt j).exec j s = s :=
  if_pos rfl

theorem ie_exec_ne (hn : n ≠ j) : (insertEdge P b tgt j).exec n s = P.exec n s :=
  if_neg hn

theorem ie_next_j : (insertEdge P b tgt j).next j s = some tgt :=
  if_pos rfl

theorem ie_next_redirected (hb : b ≠ j) (h : P.next b s = some tgt) : (insertEdge P b tgt j).next b s = some j := by
  simp only [insertEdge, if_neg hb, if_true, h]

theorem ie_next_kept (hn : n ≠ j) (h : ¬ (n = b ∧ P.next n s = some tgt)) :
    (insertEdge P b tgt j).next n s = P.next n s := by
  simp only [insertEdge, if_neg hn]
  split
  · next hnb =>
    cases hp : P.next n s with
    | none => rfl
    | some m => exact if_neg fun e : m = tgt => h ⟨hnb, e ▸ hp⟩
  · rfl

/-- one step of the original function from one of its blocks, taken in the transformed one -/
theorem insertEdge_step {m : Nat} (hb : b ≠ j) (hn : n ≠ j) (hnext : P.next n (P.exec n s) = some m) :
    Steps (insertEdge P b tgt j) n s m (P.exec n s) := by
  by_cases h : n = b ∧ P.next n (P.exec n s) = some tgt
  · -- the redirected edge: n -> j -> m
    obtain ⟨rfl, ht⟩ := h
    cases hnext.symm.trans ht
    exact .head (ie_exec_ne hn) (ie_next_redirected hb ht) (.head ie_exec_j ie_next_j (.refl _ _))
  · exact .head (ie_exec_ne hn) ((ie_next_kept hn h).trans hnext) (.refl _ _)
end

/-- every execution of the original function between two of its blocks is an execution of the transformed one -/
theorem insertEdge_forward (P : Prog σ) (b tgt j : Nat) (hb : b ≠ j)
    (n k : Nat) (s t : σ) (fresh : ∀ m u, P.next m u ≠ some j) (hn : n ≠ j)
    (h : Steps P n s k t) : Steps (insertEdge P b tgt j) n s k t := by
  induction h with
  | refl => exact .refl _ _
  | step hnext _ ih => exact (insertEdge_step hb hn hnext).trans (ih fun e => fresh _ _ (e ▸ hnext))

/-- ... and conversely: the transformed function has no other executions between original blocks -/
theorem insertEdge_backward (P : Prog σ) (b tgt j : Nat) (hb : b ≠ j) (ht : tgt ≠ j)
    (fresh : ∀ m u, P.next m u ≠ some j)
    (n k : Nat) (s t : σ) (hk : k ≠ j)
    (h : Steps (insertEdge P b tgt j) n s k t) :
    (n ≠ j → Steps P n s k t) ∧ (n = j → Steps P tgt s k t) := by
  induction h with
  | refl n s => exact ⟨fun _ => .refl _ _, fun e => absurd e hk⟩
  | @step n m k s t hnext _ ih =>
    obtain ⟨ih1, ih2⟩ := ih hk
    constructor
    · intro hn
      rw [ie_exec_ne hn] at hnext ih1 ih2
      by_cases hr : n = b ∧ P.next n (P.exec n s) = some tgt
      · -- the redirected edge: the run goes on from `j`
        obtain ⟨rfl, hr⟩ := hr
        rw [ie_next_redirected hb hr] at hnext
        exact .step hr (ih2 (Option.some.inj hnext).symm)
      · rw [ie_next_kept hn hr] at hnext
        exact .step hnext (ih1 fun e => fresh n _ (e ▸ hnext))
    · rintro rfl
      rw [ie_exec_j] at hnext ih1
      cases hnext.symm.trans ie_next_j
      exact ih1 ht

/-- non-vacuity: a two-block loop with a junk jump inserted on its back edge still runs its three iterations -/
example : ∃ t, Steps (insertEdge (σ := Nat) ⟨fun n s => if n = 0 then s + 1 else s, fun n s => if n = 0 then (if s < 3 then some 0 else some 1) else none⟩ 0 0 7) 0 0 1 t := by
  refine ⟨3, insertEdge_forward _ 0 0 7 (by decide) 0 1 0 3 (fun m u => by grind) (by decide) ?_⟩
  exact .step (m := 0) (by decide) (.step (m := 0) (by decide) (.step (m := 1) (by decide) (.refl _ _)))

/-! ### the dispatcher as control flow

`applyFlattening` builds: for every redirected edge `i` a jump block `F i` whose phi edge stores `keys[i]` in the
dispatcher variable, the dispatcher entry `D`, and a chain of blocks `C i` (`if v == keys[i] goto target i else goto C (i+1)`,
the last one falling through to the real entry block).  Nodes: `D = base`, `C i = base + 1 + i`, `F i = base + 1 + n + i`.
The state is the function's own state paired with the dispatcher variable. -/

structure Dispatcher where
  base : Nat
  keys : List Nat
  targets : List Nat
  realEntry : Nat

def Dispatcher.n (d : Dispatcher) : Nat := d.keys.length
def Dispatcher.D (d : Dispatcher) : Nat := d.base
def Dispatcher.C (d : Dispatcher) (i : Nat) : Nat := d.base + 1 + i
def Dispatcher.F (d : Dispatcher) (i : Nat) : Nat := d.base + 1 + d.n + i

/-- the dispatcher blocks as a program over (σ × dispatcher variable); `orig` gives the behaviour of every other node -/
def Dispatcher.prog {σ : Type} (d : Dispatcher) (orig : Prog (σ × Nat)) : Prog (σ × Nat) where
  exec k s :=
    if d.F 0 ≤ k ∧ k < d.F d.n then (s.1, d.keys.getD (k - d.F 0) 0)       -- jump block: the phi edge stores the key
    else if d.D ≤ k ∧ k < d.F 0 then s                                     -- entry and chain blocks compute nothing
    else orig.exec k s
  next k s :=
    if d.F 0 ≤ k ∧ k < d.F d.n then some d.D
    else if k = d.D then some (if d.n = 0 then d.realEntry else d.C 0)
    else if d.C 0 ≤ k ∧ k < d.C d.n then
      let i := k - d.C 0
      if s.2 = d.keys.getD i 0 then some (d.targets.getD i 0)
      else if i + 1 < d.n then some (d.C (i + 1)) else some d.realEntry
    else orig.next k s

/-- where the chain goes on after `i` failed comparisons: block `C i`, or the real entry once the keys are exhausted -/
def Dispatcher.link (d : Dispatcher) (i : Nat) : Nat := if i < d.n then d.C i else d.realEntry

theorem Dispatcher.link_of_lt {d : Dispatcher} {i : Nat} (h : i < d.n) : d.link i = d.C i :=
  if_pos h

theorem Dispatcher.link_n (d : Dispatcher) : d.link d.n = d.realEntry :=
  if_neg (Nat.lt_irrefl _)

section
variable (d : Dispatcher) {i j k : Nat}

-- which of the ranges that `Dispatcher.prog` tests a node lies in

theorem layout_F (hi : i < d.n) : (d.F 0 ≤ d.F i ∧ d.F i < d.F d.n) ∧ d.F i - d.F 0 = i := by
  unfold Dispatcher.F
  omega

theorem layout_D : ¬ (d.F 0 ≤ d.D ∧ d.D < d.F d.n) ∧ (d.D ≤ d.D ∧ d.D < d.F 0) := by
  unfold Dispatcher.F Dispatcher.D
  omega

theorem layout_C (hj : j < d.n) : ¬ (d.F 0 ≤ d.C j ∧ d.C j < d.F d.n) ∧ (d.D ≤ d.C j ∧ d.C j < d.F 0) ∧ d.C j ≠ d.D ∧
    (d.C 0 ≤ d.C j ∧ d.C j < d.C d.n) ∧ d.C j - d.C 0 = j := by
  unfold Dispatcher.F Dispatcher.C Dispatcher.D
  omega

theorem layout_orig (hk : k < d.base) : ¬ (d.F 0 ≤ k ∧ k < d.F d.n) ∧ ¬ (d.D ≤ k ∧ k < d.F 0) ∧ k ≠ d.D ∧
    ¬ (d.C 0 ≤ k ∧ k < d.C d.n) := by
  unfold Dispatcher.F Dispatcher.C Dispatcher.D
  omega
end

section
variable {d : Dispatcher} {orig : Prog (σ × Nat)} {i j k : Nat} {s : σ × Nat}

theorem prog_exec_F (hi : i < d.n) : (d.prog orig).exec (d.F i) s = (s.1, d.keys.getD i 0) := by
  simp only [Dispatcher.prog, layout_F d hi, and_self, if_true]

theorem prog_next_F (hi : i < d.n) : (d.prog orig).next (d.F i) s = some d.D := by
  simp only [Dispatcher.prog, layout_F d hi, and_self, if_true]

theorem prog_exec_D : (d.prog orig).exec d.D s = s := by
  simp only [Dispatcher.prog, layout_D d, and_self, if_true, if_false]

theorem prog_next_D : (d.prog orig).next d.D s = some (d.link 0) := by
  simp only [Dispatcher.prog, layout_D d, if_true, if_false, Dispatcher.link, Nat.pos_iff_ne_zero, ite_not]

theorem prog_exec_C (hj : j < d.n) : (d.prog orig).exec (d.C j) s = s := by
  simp only [Dispatcher.prog, layout_C d hj, and_self, if_true, if_false]

theorem prog_next_C (hj : j < d.n) :
    (d.prog orig).next (d.C j) s = some (if s.2 = d.keys.getD j 0 then d.targets.getD j 0 else d.link (j + 1)) := by
  simp only [Dispatcher.prog, layout_C d hj, and_self, if_true, if_false, Dispatcher.link, apply_ite some]

theorem prog_exec_orig (hk : k < d.base) : (d.prog orig).exec k s = orig.exec k s := by
  simp only [Dispatcher.prog, layout_orig d hk, if_false]

theorem prog_next_orig (hk : k < d.base) : (d.prog orig).next k s = orig.next k s := by
  simp only [Dispatcher.prog, layout_orig d hk, if_false]
end

/-- entered at `D`, control walks down the chain as long as the dispatcher variable differs from the key it is
compared with -/
theorem chain_walk (d : Dispatcher) (orig : Prog (σ × Nat)) (s : σ) (v : Nat) :
    ∀ i, i ≤ d.n → (∀ l, l < i → v ≠ d.keys.getD l 0) → Steps (d.prog orig) d.D (s, v) (d.link i) (s, v) := by
  intro i
  induction i with
  | zero => exact fun _ _ => .head prog_exec_D prog_next_D (.refl _ _)
  | succ i ih =>
    intro hi hne
    refine (ih (Nat.le_of_lt hi) fun l hl => hne l (Nat.lt_succ_of_lt hl)).trans ?_
    rw [Dispatcher.link_of_lt hi]
    refine .head (prog_exec_C hi) ?_ (.refl _ _)
    rw [prog_next_C hi, if_neg (hne i (Nat.lt_succ_self i))]

/-- **the dispatcher built as control flow computes `dispatch`**: entered with `v` in the dispatcher variable it hands
control to the target of the first key equal to `v` and leaves the state alone ... -/
theorem dispatcher_some (d : Dispatcher) (orig : Prog (σ × Nat)) (s : σ) {v i : Nat} (h : dispatch d.keys v = some i) :
    Steps (d.prog orig) d.D (s, v) (d.targets.getD i 0) (s, v) := by
  obtain ⟨hi, hv, hne⟩ := dispatch_eq_some_iff.mp h
  have walk := chain_walk d orig s v i (Nat.le_of_lt hi) fun l hl e => hne l hl (e ▸ List.getElem_eq_getD 0)
  rw [Dispatcher.link_of_lt hi] at walk
  refine walk.trans (.head (prog_exec_C hi) ?_ (.refl _ _))
  rw [prog_next_C hi, if_pos (hv ▸ List.getElem_eq_getD 0)]

/-- ... and to the real entry if there is none -/
theorem dispatcher_none (d : Dispatcher) (orig : Prog (σ × Nat)) (s : σ) {v : Nat} (h : dispatch d.keys v = none) :
    Steps (d.prog orig) d.D (s, v) d.realEntry (s, v) := by
  have hv := dispatch_eq_none_iff.mp h
  have walk := chain_walk d orig s v d.n (Nat.le_refl _) fun l hl e =>
    hv (e ▸ List.getElem_eq_getD 0 ▸ List.getElem_mem hl)
  rwa [Dispatcher.link_n] at walk

/-- **a redirected edge still arrives**: from the jump block of edge `i`, through the dispatcher, control reaches the
block the edge pointed to, with the function's own state untouched -/
theorem dispatcher_routes (d : Dispatcher) (orig : Prog (σ × Nat)) (nd : d.keys.Nodup) (i : Nat) (hi : i < d.n) (s : σ) (v : Nat) :
    Steps (d.prog orig) (d.F i) (s, v) (d.targets.getD i 0) (s, d.keys.getD i 0) := by
  refine .head (prog_exec_F hi) (prog_next_F hi) ?_
  rw [← List.getElem_eq_getD (h := hi) 0]
  exact dispatcher_some d orig s (dispatch_hits d.keys nd i hi)

/-- **function entry**: the dispatcher variable starts as 0, no key is 0, so the chain falls through to the real entry -/
theorem dispatcher_entry (d : Dispatcher) (orig : Prog (σ × Nat)) (h0 : 0 ∉ d.keys) (s : σ) :
    Steps (d.prog orig) d.D (s, 0) d.realEntry (s, 0) :=
  dispatcher_none d orig s (dispatch_entry d.keys h0)

/-- with the keys `applyFlattening` assigns (a permutation plus one) both hold -/
theorem flatten_dispatcher_ok (base realEntry : Nat) (perm targets : List Nat) (hp : perm.Nodup) (orig : Prog (σ × Nat)) (s : σ) :
    let d : Dispatcher := { base := base, keys := flattenKeys perm, targets := targets, realEntry := realEntry }
    Steps (d.prog orig) d.D (s, 0) realEntry (s, 0) ∧
    ∀ i (_ : i < d.n) (v : Nat), Steps (d.prog orig) (d.F i) (s, v) (targets.getD i 0) (s, (flattenKeys perm).getD i 0) := by
  intro d
  have h := flatten_keys_ok perm hp
  exact ⟨dispatcher_entry d orig h.2 s, fun i hi v => dispatcher_routes d orig h.1 i hi s v⟩

/-- index of the redirected edge (n, m), if `applyFlattening` redirected it -/
def edgeIdx (edges : List (Nat × Nat)) (n m : Nat) : Option Nat :=
  match edges.findIdx? (· == (n, m)) with
  | some i => some i
  | none => none

/-- the original function lifted to states that carry the dispatcher variable, with the redirected edges pointing at
their jump blocks -/
def redirected (P : Prog σ) (d : Dispatcher) (edges : List (Nat × Nat)) : Prog (σ × Nat) where
  exec n s := (P.exec n s.1, s.2)
  next n s := match P.next n s.1 with
    | none => none
    | some m => match edgeIdx edges n m with
      | some i => some (d.F i)
      | none => some m

/-- one flattening pass over the abstract CFG -/
def flatten (P : Prog σ) (d : Dispatcher) (edges : List (Nat × Nat)) : Prog (σ × Nat) := d.prog (redirected P d edges)

theorem edgeIdx_eq_findIdx? (edges : List (Nat × Nat)) (n m : Nat) : edgeIdx edges n m = edges.findIdx? (· == (n, m)) := by
  unfold edgeIdx
  cases edges.findIdx? (· == (n, m)) <;> rfl

theorem edgeIdx_spec {edges : List (Nat × Nat)} {n m i : Nat} (h : edgeIdx edges n m = some i) :
    i < edges.length ∧ edges.getD i (0, 0) = (n, m) := by
  rw [edgeIdx_eq_findIdx?, List.findIdx?_eq_some_iff_getElem] at h
  obtain ⟨hi, hp, _⟩ := h
  exact ⟨hi, (List.getElem_eq_getD _).symm.trans (beq_iff_eq.mp hp)⟩

section
variable {P : Prog σ} {d : Dispatcher} {edges : List (Nat × Nat)} {n : Nat}

theorem flatten_exec (hn : n < d.base) (s : σ) (v : Nat) : (flatten P d edges).exec n (s, v) = (P.exec n s, v) :=
  prog_exec_orig hn

theorem flatten_next (hn : n < d.base) (s : σ) (v : Nat) : (flatten P d edges).next n (s, v) =
    match P.next n s with
    | none => none
    | some m => match edgeIdx edges n m with
      | some i => some (d.F i)
      | none => some m :=
  prog_next_orig hn
end

/-- a step of the original function from one of its blocks, taken in the flattened one: along the edge itself, or
through its jump block and the dispatcher -/
theorem flatten_step (P : Prog σ) (d : Dispatcher) (edges : List (Nat × Nat))
    (nd : d.keys.Nodup) (hlen : edges.length = d.n)
    (htgt : ∀ i, i < d.n → d.targets.getD i 0 = (edges.getD i (0, 0)).2)
    {n m : Nat} {s : σ} (hn : n < d.base) (hnext : P.next n (P.exec n s) = some m) (v : Nat) :
    ∃ v', Steps (flatten P d edges) n (s, v) m (P.exec n s, v') := by
  cases he : edgeIdx edges n m with
  | none => exact ⟨v, .head (flatten_exec hn s v) (by simp only [flatten_next hn, hnext, he]) (.refl _ _)⟩
  | some i =>
    obtain ⟨hi, hedge⟩ := edgeIdx_spec he
    have route := dispatcher_routes d (redirected P d edges) nd i (hlen ▸ hi) (P.exec n s) v
    rw [htgt i (hlen ▸ hi), hedge] at route
    exact ⟨_, .head (flatten_exec hn s v) (by simp only [flatten_next hn, hnext, he]) route⟩

/-- **one flattening pass preserves every execution of the original function**: if the original goes from block `n`
(state `s`) to block `k` (state `t`), the flattened function goes from `n` to `k` with the same function state, whatever
the dispatcher variable holds - for any CFG, any set of redirected edges, any distinct keys -/
theorem flatten_forward (P : Prog σ) (d : Dispatcher) (edges : List (Nat × Nat))
    (nd : d.keys.Nodup) (hlen : edges.length = d.n)
    (htgt : ∀ i, i < d.n → d.targets.getD i 0 = (edges.getD i (0, 0)).2)
    (hclosed : ∀ n s m, n < d.base → P.next n s = some m → m < d.base)
    (n k : Nat) (s t : σ) (hn : n < d.base) (h : Steps P n s k t) :
    ∀ v, ∃ v', Steps (flatten P d edges) n (s, v) k (t, v') := by
  induction h with
  | refl n s => exact fun v => ⟨v, .refl _ _⟩
  | step hnext _ ih =>
    intro v
    obtain ⟨v₁, h₁⟩ := flatten_step P d edges nd hlen htgt hn hnext v
    obtain ⟨v', h₂⟩ := ih (hclosed _ _ _ hn hnext) v₁
    exact ⟨v', h₁.trans h₂⟩

/-- the function returns from block `k` in state `t` -/
def Returns (P : Prog σ) (n : Nat) (s : σ) (t : σ) : Prop :=
  ∃ k u, Steps P n s k u ∧ P.next k (P.exec k u) = none ∧ t = P.exec k u

/-- whatever the original function returns when run from one of its blocks, the flattened one returns too, whatever
the dispatcher variable holds -/
theorem flatten_returns_from (P : Prog σ) (d : Dispatcher) (edges : List (Nat × Nat))
    (nd : d.keys.Nodup) (hlen : edges.length = d.n)
    (htgt : ∀ i, i < d.n → d.targets.getD i 0 = (edges.getD i (0, 0)).2)
    (hclosed : ∀ n s m, n < d.base → P.next n s = some m → m < d.base)
    (n : Nat) (hn : n < d.base) (s t : σ) (h : Returns P n s t) (v : Nat) :
    ∃ v', Returns (flatten P d edges) n (s, v) (t, v') := by
  obtain ⟨k, u, hsteps, hnone, rfl⟩ := h
  obtain ⟨v', hv'⟩ := flatten_forward P d edges nd hlen htgt hclosed n k s u hn hsteps v
  have hk : k < d.base := hsteps.inv hclosed hn
  refine ⟨v', k, (u, v'), hv', ?_, ?_⟩
  · simp only [flatten_exec hk, flatten_next hk, hnone]
  · rw [flatten_exec hk]

/-- **results are preserved**: whenever the original function, entered at its real entry block, returns in state `t`,
so does the flattened one, entered through the dispatcher -/
theorem flatten_returns (P : Prog σ) (d : Dispatcher) (edges : List (Nat × Nat))
    (nd : d.keys.Nodup) (h0 : 0 ∉ d.keys) (hlen : edges.length = d.n)
    (htgt : ∀ i, i < d.n → d.targets.getD i 0 = (edges.getD i (0, 0)).2)
    (hclosed : ∀ n s m, n < d.base → P.next n s = some m → m < d.base)
    (hentry : d.realEntry < d.base) (s t : σ) (h : Returns P d.realEntry s t) :
    ∃ v, Returns (flatten P d edges) d.D (s, 0) (t, v) := by
  obtain ⟨v, k, u, hsteps, hret⟩ := flatten_returns_from P d edges nd hlen htgt hclosed _ hentry s t h 0
  -- with the variable at its zero value the dispatcher hands control to the real entry block
  exact ⟨v, k, u, (dispatcher_entry d _ h0 s).trans hsteps, hret⟩

/-- non-vacuity: a three-block loop (0: entry -> 1; 1: `if s < 3 goto 1 else goto 2`; 2: return) with its three edges
redirected through a dispatcher with keys 2, 3, 1 still returns the state the original returns -/
example : ∃ v, Returns (flatten (σ := Nat)
      ⟨fun n s => if n = 1 then s + 1 else s, fun n s => if n = 0 then some 1 else if n = 1 then (if s < 3 then some 1 else some 2) else none⟩
      { base := 10, keys := [2, 3, 1], targets := [1, 1, 2], realEntry := 0 } [(0, 1), (1, 1), (1, 2)]) 10 (0, 0) (3, v) := by
  apply flatten_returns (σ := Nat) _ _ _ (by decide) (by decide) (by decide) (by decide) (fun n s m _ h => by grind) (by decide)
  exact ⟨2, 3, .step (m := 1) (by decide) (.step (m := 1) (by decide) (.step (m := 1) (by decide) (.step (m := 2) (by decide) (.refl _ _)))), by decide, by decide⟩

end GV.Props.C11
